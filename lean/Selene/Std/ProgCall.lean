/-
What the whole-program lint of `Std/Prog.lean` reports at one use site, in terms of the site-level models
that C05 (`checkCall`) and C06 (`invalidFieldAccess`, `targetProblems`) are stated over: the theorems of
those properties hold at every call, read and assignment target of every program.
-/
import Selene.Std.ProgLemmas
namespace Selene.Std.Prog
open Selene.Lua Selene.Lints

/-- the call suffix and the call shape `visit_function_call` checks -/
def callShape : Suffix → Option Call
  | .args _ a => some { isMethod := false, args := (callArgsOf a).1 }
  | .meth _ _ a => some { isMethod := true, args := (callArgsOf a).1 }
  | _ => none

/-- a call site of a library function: the root identifier is not bound by the script, the name path read off
prefix and suffixes resolves to the function `fb`, and `c` is the shape of the first call suffix -/
structure LibCall (l : SegLib) (R : Nat → Bool) (t : Tok) (ss : SuffixList) (path : List String)
    (fb : FunctionBehavior) (c : Call) : Prop where
  unbound : R t.idx = false
  -- cut at the first call as in `stdCall` (`namePathPS` re-cuts: no effect)
  hpath : namePathPS (.name t) (takeToCall ss.toList) = some path
  hfound : ∃ dep, findGlobal l path = .found { kind := .function fb, deprecated := dep }
  hcall : ∃ cs, (takeToCall ss.toList).getLast? = some cs ∧ callShape cs = some c

theorem stdCall_libCall (l : SegLib) (R : Nat → Bool) (sp : Span) {t : Tok} {ss : SuffixList} {path : List String}
    {fb : FunctionBehavior} {c : Call} (h : LibCall l R t ss path fb c) :
    ∃ spans, stdCall l R (.mk sp (.name t) ss) = (checkCall fb c).map fun pr =>
      ⟨"incorrect_standard_library_use", callProblemSpan sp spans pr, .call pr, path, t.idx⟩ := by
  obtain ⟨hu, hp, ⟨dep, hf⟩, ⟨cs, hl, hc⟩⟩ := h
  simp only [stdCall, prefixStart, hu, Bool.false_eq_true, if_false, hp, hl, hf, found?]
  cases cs with
  | args _ a => cases hc; exact ⟨(callArgsOf a).2, rfl⟩
  | meth _ _ a => cases hc; exact ⟨(callArgsOf a).2, rfl⟩
  | _ => cases hc

/-- **at a library call site the lint reports exactly what the call check of C05 reports** -/
theorem stdCall_kinds (l : SegLib) (R : Nat → Bool) (sp : Span) (t : Tok) (ss : SuffixList) (path : List String)
    (fb : FunctionBehavior) (c : Call) (h : LibCall l R t ss path fb c) :
    (stdCall l R (.mk sp (.name t) ss)).map (·.kind) = (checkCall fb c).map Kind.call := by
  obtain ⟨_, heq⟩ := stdCall_libCall l R sp h
  rw [heq, List.map_map]
  rfl

theorem stdCall_paths (l : SegLib) (R : Nat → Bool) (sp : Span) (t : Tok) (ss : SuffixList) (path : List String)
    (fb : FunctionBehavior) (c : Call) (h : LibCall l R t ss path fb c) :
    ∀ g ∈ stdCall l R (.mk sp (.name t) ss), g.path = path ∧ g.code = "incorrect_standard_library_use" := by
  obtain ⟨_, heq⟩ := stdCall_libCall l R sp h
  rw [heq]
  exact List.forall_mem_map.mpr fun _ _ => ⟨rfl, rfl⟩

/-- **at a read whose root is not bound by the script the lint reports exactly what the field-access check of
C06 reports** -/
theorem stdExpr_kinds (l : SegLib) (R : Nat → Bool) (e : Lua.Expr) (path : List String)
    (hu : R (exprStart e) = false) (hp : namePathE e = some path) :
    (stdExpr l R e).map (·.kind) = (invalidFieldAccess l path).map Kind.access := by
  simp [stdExpr, hu, hp, List.map_map, Function.comp_def]

/-- **an assignment target is judged by the writability table of C06** -/
theorem stdTargets_kinds (l : SegLib) (R : Nat → Bool) : (vs : VarList) →
    (stdTargets l R vs).map (·.kind) = (vs.toList.flatMap fun v => (targetProblems l (targetOf R v)).map Kind.access) := by
  intro vs
  simp only [stdTargets_eq_flatMap, List.map_flatMap, List.map_map, Function.comp_def]

end Selene.Std.Prog
