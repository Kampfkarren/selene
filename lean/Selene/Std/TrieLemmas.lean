/- The tree of `extract_into_tree`, seen through `fieldAt`, depends on the set of keys and not on their order. -/
import Selene.Std.Trie
import Selene.Std.ExtendLemmas
namespace Selene.Std

def nodeAt : Children → Path → Option Node
  | _, [] => none
  | ch, [s] => getKV ch s
  | ch, s :: r :: rest =>
    match getKV ch s with
    | some n => nodeAt n.children (r :: rest)
    | none => none

@[simp] theorem Node.field_mk (f : TreeField) (c : Children) : (Node.mk f c).field = f := rfl
@[simp] theorem Node.children_mk (f : TreeField) (c : Children) : (Node.mk f c).children = c := rfl

def fieldAt (ch : Children) (q : Path) : Option TreeField := (nodeAt ch q).map Node.field

theorem fieldAt_nil_children (q : Path) : fieldAt [] q = none := by
  cases q with
  | nil => rfl
  | cons s rest => cases rest <;> rfl

theorem fieldAt_single (ch : Children) (s : String) :
    fieldAt ch [s] = (getKV ch s).map Node.field := rfl

theorem fieldAt_cons_bind (ch : Children) (s : String) (q : Path) :
    fieldAt ch (s :: q) =
      (getKV ch s).bind fun n => if q = [] then some n.field else fieldAt n.children q := by
  cases q with
  | nil => rw [fieldAt_single]; cases getKV ch s <;> rfl
  | cons r rest => unfold fieldAt; rw [nodeAt]; cases getKV ch s <;> rfl

theorem fieldAt_cons (ch : Children) (s : String) (rest : Path) (h : rest ≠ []) :
    fieldAt ch (s :: rest) = fieldAt (childCh ch s) rest := by
  rw [fieldAt_cons_bind, childCh]
  cases getKV ch s with
  | none => exact (fieldAt_nil_children rest).symm
  | some n => exact if_neg h

theorem childField_eq (ch : Children) (s : String) :
    childField ch s = (fieldAt ch [s]).getD .readOnly := by
  unfold childField; rw [fieldAt_single]
  cases getKV ch s <;> rfl

theorem insertSegs_cons (seg : String) (rest key : Path) (ch : Children) :
    insertSegs (seg :: rest) key ch =
      insertKV ch seg (.mk (if rest = [] then .key key else childField ch seg)
        (insertSegs rest key (childCh ch seg))) := by
  cases rest <;> rfl

theorem fieldAt_insertKV (ch : Children) (k : String) (n : Node) (s : String) (q : Path) :
    fieldAt (insertKV ch k n) (s :: q) =
      if k = s then (if q = [] then some n.field else fieldAt n.children q) else fieldAt ch (s :: q) := by
  rw [fieldAt_cons_bind, fieldAt_cons_bind, getKV_insertKV]
  exact apply_ite (Option.bind · _) ..

theorem fieldAt_insertSegs (segs key : Path) (ch : Children) (q : Path)
    (hs : segs ≠ []) (hq : q ≠ []) :
    fieldAt (insertSegs segs key ch) q =
      if q = segs then some (.key key)
      else if q.isPrefixOf segs then some ((fieldAt ch q).getD .readOnly)
      else fieldAt ch q := by
  obtain ⟨s, qr, rfl⟩ := List.exists_cons_of_ne_nil hq
  -- also true for `segs = []`; the induction is over that form
  clear hs hq
  induction segs generalizing ch s qr with
  | nil => rfl
  | cons seg more ih =>
    rw [insertSegs_cons, fieldAt_insertKV]
    by_cases h : seg = s
    · subst h
      simp only [if_true, List.cons.injEq, true_and, List.isPrefixOf, beq_self_eq_true, Bool.true_and,
        Node.field_mk, Node.children_mk]
      cases qr with
      | nil =>
        cases more with
        | nil => rfl
        | cons m ms => exact congrArg some (childField_eq ch seg)
      | cons r qr =>
        rw [if_neg (List.cons_ne_nil r qr), ih, fieldAt_cons ch seg _ (List.cons_ne_nil r qr)]
    · have h' : ¬ s = seg := fun e => h e.symm
      simp [h, h', List.isPrefixOf]

def hasKey (m : SegMap) (q : Path) : Bool := m.any (·.1 = q)
def hasPrefix (m : SegMap) (q : Path) : Bool := m.any (q.isPrefixOf ·.1)

def KeysNonempty (m : SegMap) : Prop := ∀ kf ∈ m, kf.1 ≠ []

theorem hasPrefix_of_hasKey {m : SegMap} {q : Path} (h : hasKey m q = true) : hasPrefix m q = true := by
  simp only [hasKey, hasPrefix, List.any_eq_true, decide_eq_true_eq] at h ⊢
  obtain ⟨kf, hm, rfl⟩ := h
  exact ⟨kf, hm, List.isPrefixOf_iff_prefix.mpr (List.prefix_refl _)⟩

theorem fieldAt_fold (m : SegMap) (acc : Children) (q : Path) (hne : KeysNonempty m) (hq : q ≠ []) :
    fieldAt (m.foldl (fun acc kf => insertSegs kf.1 kf.1 acc) acc) q =
      if hasKey m q then some (.key q)
      else if hasPrefix m q then some ((fieldAt acc q).getD .readOnly)
      else fieldAt acc q := by
  induction m generalizing acc with
  | nil => rfl
  | cons kf rest ih =>
    rw [List.foldl_cons, ih _ (fun x hx => hne x (List.mem_cons_of_mem _ hx)),
      fieldAt_insertSegs _ _ _ _ (hne kf List.mem_cons_self) hq]
    simp only [hasKey, hasPrefix, List.any_cons]
    by_cases h0 : q = kf.1
    · subst h0
      simp only [if_true, Option.getD_some, ite_self, decide_true, Bool.true_or]
    · have h0' : ¬ kf.1 = q := fun e => h0 e.symm
      by_cases h3 : q.isPrefixOf kf.1 = true
      · simp only [h0, h0', h3, if_true, if_false, Option.getD_some, ite_self, decide_false, Bool.false_or,
          Bool.true_or]
      · simp only [h0, h0', h3, if_false, decide_false, Bool.false_or, Bool.false_eq_true]

theorem hasKey_eq_isSome_get (m : SegMap) (q : Path) : hasKey m q = (m.get q).isSome :=
  (Option.isSome_map.trans List.isSome_find?).symm

theorem fieldAt_extract (m : SegMap) (q : Path) (hne : KeysNonempty m) (hq : q ≠ []) :
    fieldAt (extractIntoTree m) q =
      if hasKey m q then some (.key q)
      else if hasPrefix m q then some .readOnly
      else none := by
  rw [extractIntoTree, fieldAt_fold m [] q hne hq, fieldAt_nil_children]
  rfl

theorem isSome_fieldAt_extract (m : SegMap) (q : Path) (hne : KeysNonempty m) (hq : q ≠ []) :
    (fieldAt (extractIntoTree m) q).isSome = hasPrefix m q := by
  rw [fieldAt_extract m q hne hq]
  cases hk : hasKey m q with
  | true => simp [hasPrefix_of_hasKey hk]
  | false => cases hasPrefix m q <;> rfl

end Selene.Std
