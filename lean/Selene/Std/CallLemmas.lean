/-
Helper lemmas for C05 (`Props/C05.lean`): the model's literal type inference is sound for the
static reading of the Lua reference manual (`CallSpec.lean`) on "tame" expressions, the count
arithmetic equals the documented range, and bookkeeping about which problems each part of
`checkCall` can produce.
-/
import Selene.Std.CallSpec
namespace Selene.Std
open Doc

theorem fromString_short (q : Quote) (c : String) (h : q.isLong = false) :
    Passed.fromString (tokenText q c) = .str c := by
  obtain ⟨a, b, ha, hb⟩ : ∃ a b : Char, q.opening.toList = [a] ∧ q.closing.toList = [b] := by
    cases q with
    | long n => cases h
    | single => exact ⟨'\'', '\'', String.toList_ofList, String.toList_ofList⟩
    | double => exact ⟨'"', '"', String.toList_ofList, String.toList_ofList⟩
  have : (a :: (c.toList ++ [b])).dropLast = a :: c.toList := List.dropLast_concat (l₁ := a :: c.toList)
  simp [Passed.fromString, tokenText, String.toList_append, ha, hb, this]

def basicType : ArgType → Option LuaType
  | .bool => some .bool
  | .function => some .function
  | .nil => some .nil
  | .number => some .number
  | .string => some .string
  | .table => some .table
  | _ => none

/-- the type `get_argument_type` inferred does not contradict the static reading `st`.  Two cases need no
    agreement: `...` is never flagged, and on `never` (no value at all) every flag is justified. -/
def Sound : Passed → Static → Prop
  | .prim t, st => t = .vararg ∨ st = .never ∨ ∃ T, basicType t = some T ∧ st = .ty T
  | .str s, st => st = .lit s

def Passed.isStringish : Passed → Bool
  | .prim .string => true
  | .str _ => true
  | _ => false

theorem sameTypeIfEqual_some {l r : Option Passed} {p : Passed}
    (h : sameTypeIfEqual l r = some p) : l = some p ∧ r = some p := by
  unfold sameTypeIfEqual at h
  split at h
  · next heq => subst heq; exact ⟨h, h⟩
  · cases h

theorem sound_ty_or_never {t : ArgType} {T : LuaType} (h : basicType t = some T) (c : Bool) :
    Sound (.prim t) (if c then Static.ty T else .never) := by
  cases c
  · exact Or.inr (Or.inl rfl)
  · exact Or.inr (Or.inr ⟨T, h, rfl⟩)

theorem binopType_arith {op : BinOp} (h : op.isArith = true) (b : Bool) (l r : Option Passed) :
    binopType op b l r = sameTypeIfEqual l r := by
  cases op with
  | plus | minus | star | slash => rfl
  | _ => cases h

theorem binopStatic_arith {op : BinOp} (h : op.isArith = true) (x y : Static) :
    binopStatic op x y =
      if x.arithOk && y.arithOk then (if x.isUnknown || y.isUnknown then .unknown else .ty .number)
      else .never := by
  cases op with
  | plus | minus | star | slash => rfl
  | _ => cases h

theorem binop_sound {op : BinOp} {b : Bool} {l r : Option Passed} {p : Passed}
    (ha : op.isArith = false) (h : binopType op b l r = some p) (x y : Static) :
    Sound p (binopStatic op x y) ∧ p.isStringish = decide (op = .concat) := by
  cases op with
  | plus | minus | star | slash => cases ha
  | and | or => cases h
  | gt | ge | lt | le | eq | ne =>
    cases b <;> cases h
    exact ⟨sound_ty_or_never rfl _, rfl⟩
  | caret | percent | concat => cases h; exact ⟨sound_ty_or_never rfl _, rfl⟩

theorem sound_arith (p : Passed) (a : Static) (c : Bool) (ha : Sound p a)
    (hs : p.isStringish = false) :
    Sound p (if a.arithOk && c then Static.ty .number else .never) := by
  cases p with
  | str s => cases hs
  | prim t =>
    rcases ha with hv | rfl | ⟨T, hT, rfl⟩
    · exact Or.inl hv
    · exact Or.inr (Or.inl rfl)
    · cases t with
      | number => cases hT; exact sound_ty_or_never rfl c
      | string => cases hs
      | _ => cases hT <;> exact Or.inr (Or.inl rfl)

theorem sound_known (p : Passed) (a : Static) (ha : Sound p a) :
    p = .prim .vararg ∨ a.isUnknown = false := by
  cases p with
  | str s => obtain rfl : a = .lit s := ha; exact Or.inr rfl
  | prim t =>
    rcases ha with rfl | rfl | ⟨T, _, rfl⟩
    · exact Or.inl rfl
    · exact Or.inr rfl
    · exact Or.inr rfl

theorem getArgType_spec (e : Expr) {p : Passed} (h : getArgType e = some p) :
    p.isStringish = stringy e ∧ (tame e = true → Sound p (staticOf e)) := by
  induction e generalizing p with
  | paren e ih => exact ih h
  | str q c => cases h; exact ⟨rfl, fun _ => rfl⟩
  | unop op e ih =>
    cases op with
    | hash => cases h; exact ⟨rfl, fun _ => sound_ty_or_never rfl _⟩
    | not => cases h; exact ⟨rfl, fun _ => sound_ty_or_never rfl _⟩
    | minus =>
      obtain ⟨hstr, hsound⟩ := ih h
      refine ⟨hstr, fun ht => ?_⟩
      obtain ⟨hte, hns⟩ : tame e = true ∧ p.isStringish = false := by
        simpa only [tame, hstr, Bool.and_eq_true, Bool.not_eq_true'] using ht
      have a1 := hsound hte
      rcases sound_known p _ a1 with rfl | hk
      · exact Or.inl rfl
      · simpa [staticOf, unopStatic, hk] using sound_arith p _ true a1 hns
  | binop op l r ihl ihr =>
    cases ha : op.isArith with
    | false =>
      obtain ⟨hsound, hcat⟩ := binop_sound ha h (staticOf l) (staticOf r)
      have hstr : p.isStringish = stringy (.binop op l r) := by
        show _ = (decide (op = .concat) || (op.isArith && stringy l && stringy r))
        rw [hcat, ha, Bool.false_and, Bool.false_and, Bool.or_false]
      exact ⟨hstr, fun _ => hsound⟩
    | true =>
      have h : sameTypeIfEqual (getArgType l) (getArgType r) = some p := (binopType_arith ha _ _ _).symm.trans h
      obtain ⟨h1, h2⟩ := sameTypeIfEqual_some h
      obtain ⟨hstrl, hsoundl⟩ := ihl h1
      obtain ⟨hstrr, hsoundr⟩ := ihr h2
      have hc : op ≠ .concat := by rintro rfl; cases ha
      have hstr : p.isStringish = stringy (.binop op l r) := by
        show _ = (decide (op = .concat) || (op.isArith && stringy l && stringy r))
        rw [decide_eq_false hc, ha, ← hstrl, ← hstrr, Bool.false_or, Bool.true_and, Bool.and_self]
      refine ⟨hstr, fun ht => ?_⟩
      obtain ⟨⟨htl, htr⟩, hns⟩ : (tame l = true ∧ tame r = true) ∧ p.isStringish = false := by
        simpa only [tame, ha, if_true, ← hstrl, ← hstrr, Bool.and_self, Bool.and_eq_true, Bool.not_eq_true'] using ht
      have a1 := hsoundl htl
      rcases sound_known p _ a1 with rfl | hk1
      · exact Or.inl rfl
      rcases sound_known p _ (hsoundr htr) with rfl | hk2
      · exact Or.inl rfl
      simpa [staticOf, binopStatic_arith ha, hk1, hk2] using sound_arith p _ (staticOf r).arithOk a1 hns
  | vararg => cases h; exact ⟨rfl, fun _ => Or.inl rfl⟩
  | _ => cases h <;> exact ⟨rfl, fun _ => Or.inr (Or.inr ⟨_, rfl, rfl⟩)⟩

theorem getArgType_sound : ∀ (e : Expr) (p : Passed), tame e = true → getArgType e = some p →
    Sound p (staticOf e) :=
  fun e _ ht h => (getArgType_spec e h).2 ht

theorem argFlagged_some {po : Option Passed} {a : Argument} {p : Passed} :
    argFlagged po a = some p ↔
      po = some p ∧ a.type ≠ .vararg ∧ ¬(a.required = .notRequired ∧ p = .prim .nil) ∧
        p.matches a.type = false := by
  cases po with
  | none => simp [argFlagged]
  | some pt =>
    simp only [argFlagged, Option.ite_none_left_eq_some, Option.some.injEq, Bool.not_eq_true]
    constructor
    · rintro ⟨hv, hn, hm, rfl⟩; exact ⟨rfl, hv, hn, hm⟩
    · rintro ⟨rfl, hv, hn, hm⟩; exact ⟨hv, hn, hm, rfl⟩

theorem typeFits_eq_matches {t' : ArgType} {T : LuaType} (hT : basicType t' = some T) (t : ArgType)
    (opt : Bool) :
    typeFits t opt T =
      ((opt && decide (t' = .nil)) || ((Passed.prim t').matches t || decide (t = .vararg))) := by
  cases t' <;> cases hT <;> cases t <;> rfl

theorem stringFits_eq_matches (t : ArgType) (s : String) :
    stringFits t s = (decide (t = .vararg) || (Passed.str s).matches t) := by
  cases t <;> rfl

theorem not_fits {p : Passed} {st : Static} {t : ArgType} {opt : Bool}
    (hs : Sound p st) (hv : t ≠ .vararg) (hnil : ¬(opt = true ∧ p = .prim .nil))
    (hm : p.matches t = false) : fits t opt st = false := by
  cases p with
  | str s =>
    obtain rfl : st = .lit s := hs
    simp [fits, stringFits_eq_matches, hm, hv]
  | prim t' =>
    rcases hs with rfl | rfl | ⟨T, hT, rfl⟩
    · simp [Passed.matches] at hm
    · rfl
    · have : ¬(opt = true ∧ t' = .nil) := fun h => hnil ⟨h.1, by rw [h.2]⟩
      simpa [fits, typeFits_eq_matches hT, hm, hv] using this

theorem typeProblems_eq (ps : List (Option Passed)) (as : List Argument) (i : Nat) :
    typeProblems ps as i = ((ps.zip as).zipIdx i).filterMap fun x =>
      (argFlagged x.1.1 x.1.2).map (Problem.type x.2 x.1.2.type) := by
  fun_induction typeProblems ps as i with
  | case1 => rfl
  | case2 => simp
  | case3 _ _ _ _ _ _ h ih => simp [List.zipIdx_cons, h, ih]
  | case4 _ _ _ _ _ h ih => simp [List.zipIdx_cons, h, ih]

theorem mem_typeProblems {x : Problem} {ps : List (Option Passed)} {as : List Argument} :
    x ∈ typeProblems ps as 0 ↔
      ∃ k a p, x = .type k a.type p ∧ as[k]? = some a ∧ ∃ po, ps[k]? = some po ∧ argFlagged po a = some p := by
  simp only [typeProblems_eq, List.mem_filterMap, List.mem_zipIdx_iff_getElem?,
    List.getElem?_zip_eq_some, Option.map_eq_some_iff]
  constructor
  · rintro ⟨⟨⟨po, a⟩, k⟩, ⟨h1, h2⟩, p, h3, rfl⟩
    exact ⟨k, a, p, rfl, h2, po, h1, h3⟩
  · rintro ⟨k, a, p, rfl, h2, po, h1, h3⟩
    exact ⟨⟨⟨po, a⟩, k⟩, ⟨h1, h2⟩, p, h3, rfl⟩

theorem countProblems_eq (f : FunctionBehavior) (n : Nat) (more : Bool) : ∃ notes,
    countProblems f n more =
      (if (requiredVarargMessage f).isSome && decide (f.args.length > n) && !more
        then [.needsVararg notes] else []) ++
      if countCondition f n more then [.count (expectedArgs f) n (countNotes f n)] else [] := by
  unfold countProblems needsVarargPart countPart
  cases requiredVarargMessage f with
  | none => exact ⟨[], rfl⟩
  | some m => exact ⟨m.toList, rfl⟩

theorem countProblems_isCount (f : FunctionBehavior) (n : Nat) (more : Bool) (x : Problem)
    (h : x ∈ countProblems f n more) : x.isCount = true := by
  obtain ⟨notes, e⟩ := countProblems_eq f n more
  simp only [e, List.mem_append, List.mem_ite_nil_right, List.mem_singleton] at h
  rcases h with ⟨-, rfl⟩ | ⟨-, rfl⟩ <;> rfl

theorem maybeMore_eq_isOpen (c : CallArgs) : c.maybeMore = isOpen c := by
  cases c with
  | parens as =>
    simp only [CallArgs.maybeMore, isOpen, ← List.head?_reverse]
    generalize as.reverse = l
    cases l with
    | nil => rfl
    | cons e _ => cases e <;> rfl
  | string q s => rfl
  | table => rfl

theorem types_length (c : CallArgs) : c.types.length = nArgs c := by
  cases c with
  | parens as => exact List.length_map _
  | _ => rfl

theorem lastParam_eq (f : FunctionBehavior) : lastParam f = f.args.getLast? :=
  List.head?_reverse

theorem lastIsVararg_eq (f : FunctionBehavior) : lastIsVararg f = variadic f := by
  unfold lastIsVararg variadic
  rw [lastParam_eq]
  cases f.args.getLast? <;> rfl

theorem requiredVararg_isSome (f : FunctionBehavior) :
    (requiredVarargMessage f).isSome = requiresVararg f := by
  unfold requiredVarargMessage requiresVararg
  rw [lastParam_eq]
  cases f.args.getLast? with
  | none => rfl
  | some a =>
    simp only [isOptional]
    by_cases hv : a.type = .vararg
    · cases hr : a.required <;> simp [hv]
    · simp [hv]

theorem requiredCount_eq (f : FunctionBehavior) :
    (f.args.filter Argument.isRequired).length = requiredCount f := by
  unfold requiredCount
  congr 1
  apply List.filter_congr
  intro a _
  simp [Argument.isRequired, isOptional]

theorem requiresVararg_variadic (f : FunctionBehavior) : requiresVararg f = true → variadic f = true := by
  unfold requiresVararg variadic
  cases lastParam f with
  | none => exact id
  | some a => exact fun h => (Bool.and_eq_true_iff.mp h).1

theorem any_isCount_countProblems (f : FunctionBehavior) (n : Nat) (more : Bool) :
    (countProblems f n more).any Problem.isCount =
      ((!more && (decide (n < minArgs f) || (!variadic f && decide (n > f.args.length)))) ||
       (more && !variadic f && decide (n > f.args.length))) := by
  obtain ⟨notes, e⟩ := countProblems_eq f n more
  have hany : (countProblems f n more).any Problem.isCount =
      (((requiredVarargMessage f).isSome && decide (f.args.length > n) && !more) || countCondition f n more) := by
    rw [e]
    cases (requiredVarargMessage f).isSome && decide (f.args.length > n) && !more <;>
      cases countCondition f n more <;> rfl
  rw [hany]
  unfold countCondition expectedArgs maxArgs minArgs
  rw [requiredVararg_isSome, lastIsVararg_eq, requiredCount_eq]
  cases hr : requiresVararg f
  · cases more <;> simp
  · -- "requires use of the vararg" fires below `f.args.length`, which covers `n < requiredCount f - 1`
    have hle : requiredCount f ≤ f.args.length := List.length_filter_le _ _
    rw [requiresVararg_variadic f hr]
    cases more
    · simp; omega
    · simp

theorem types_statics (c : CallArgs) (ht : tameArgs c = true) (k : Nat) (p : Passed)
    (h : c.types[k]? = some (some p)) : ∃ st, (statics c)[k]? = some st ∧ Sound p st := by
  cases c with
  | parens as =>
    simp only [CallArgs.types, List.getElem?_map, Option.map_eq_some_iff] at h
    obtain ⟨e, he, hp⟩ := h
    exact ⟨staticOf e, by simp [statics, he],
      getArgType_sound e p (List.all_eq_true.mp ht e (List.mem_of_getElem? he)) hp⟩
  | string q s =>
    cases k with
    | zero => cases h; exact ⟨.lit s, rfl, rfl⟩
    | succ k => cases h
  | table =>
    cases k with
    | zero => cases h; exact ⟨.ty .table, rfl, Or.inr (Or.inr ⟨.table, rfl, rfl⟩)⟩
    | succ k => cases h

theorem checkCall_of_style {f : FunctionBehavior} {c : Call} (hs : f.method = c.isMethod) :
    checkCall f c =
      countProblems f (nArgs c.args) (isOpen c.args) ++ typeProblems c.args.types f.args 0 := by
  simp [checkCall, hs, types_length, maybeMore_eq_isOpen]

theorem checkCall_of_style_ne {f : FunctionBehavior} {c : Call} (hs : f.method ≠ c.isMethod) :
    checkCall f c = [.style c.isMethod] := by
  simp [checkCall, hs]

theorem type_mem_checkCall {f : FunctionBehavior} {c : Call} {i : Nat} {t : ArgType} {p : Passed} :
    Problem.type i t p ∈ checkCall f c ↔
      f.method = c.isMethod ∧ ∃ po a, c.args.types[i]? = some po ∧ f.args[i]? = some a ∧
        argFlagged po a = some p ∧ a.type = t := by
  by_cases hs : f.method = c.isMethod
  · rw [checkCall_of_style hs, List.mem_append, mem_typeProblems]
    constructor
    · rintro (h | ⟨k, a, p', hx, h2, po, h1, h3⟩)
      · cases countProblems_isCount _ _ _ _ h
      · cases hx; exact ⟨hs, po, a, h1, h2, h3, rfl⟩
    · rintro ⟨_, po, a, h1, h2, h3, rfl⟩
      exact Or.inr ⟨i, a, p, rfl, h2, po, h1, h3⟩
  · rw [checkCall_of_style_ne hs]
    constructor
    · intro h; cases List.mem_singleton.mp h
    · intro h; exact absurd h.1 hs

end Selene.Std
