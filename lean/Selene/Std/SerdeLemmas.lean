/-
Lemmas for C17.  `de (ser l) = ok l`: a key-sorted list survives `fromList`, and a struct's fields are read back
one by one from the concatenation of its `optE` entries (`filter_optE`, `pick_optE`, in the local simp set).
`de v = ok l → WF l`: every map a decoder returns went through `fromList`, which sorts.
-/
import Selene.Std.Serde
namespace Selene.Std.Serde
open Selene.Std

theorem bind_ok {α β} {x : R α} {f : α → R β} {b : β} :
    (x >>= f) = .ok b ↔ ∃ a, x = .ok a ∧ f a = .ok b := by
  cases x <;> simp [bind, Except.bind]

theorem ok_bind {α β} (a : α) (f : α → R β) : (Except.ok a >>= f) = f a := rfl

theorem map_ok {α β} {x : R α} {f : α → β} {b : β} :
    x.map f = .ok b ↔ ∃ a, x = .ok a ∧ f a = b := by
  cases x <;> simp [Except.map]

theorem Sorted.nil {α} : Sorted ([] : List (String × α)) := List.Pairwise.nil

theorem sorted_cons {α} {x : String × α} {m : List (String × α)} :
    Sorted (x :: m) ↔ (∀ y ∈ m, x.1 < y.1) ∧ Sorted m := by
  simp only [Sorted, List.pairwise_map, List.pairwise_cons]

theorem extendB_cons {α} (acc : List (String × α)) (x : String × α) (xs : List (String × α)) :
    extendB acc (x :: xs) = extendB (bInsert acc x.1 x.2) xs := rfl

theorem extendB_nil {α} (acc : List (String × α)) : extendB acc [] = acc := rfl

theorem bInsert_append_of_lt {α} (m : List (String × α)) (k : String) (v : α)
    (h : ∀ x ∈ m, x.1 < k) : bInsert m k v = m ++ [(k, v)] := by
  -- the cases of `bInsert`: 1 empty map, 2 `k` below the head key, 3 equal to it, 4 above it (go on)
  fun_induction bInsert m k v with
  | case1 => rfl
  | case2 _ _ _ _ _ hk => exact absurd (h _ (List.mem_cons_self ..)) (String.lt_asymm hk)
  | case3 => exact absurd (h _ (List.mem_cons_self ..)) (String.lt_irrefl _)
  | case4 _ _ _ _ _ _ _ ih => exact congrArg _ (ih fun y hy => h y (List.mem_cons_of_mem _ hy))

theorem extendB_append {α} (acc m : List (String × α)) (h : Sorted (acc ++ m)) :
    extendB acc m = acc ++ m := by
  induction m generalizing acc with
  | nil => exact (List.append_nil acc).symm
  | cons x xs ih =>
    have hlt : ∀ y ∈ acc, y.1 < x.1 := fun y hy =>
      (List.pairwise_append.mp (List.pairwise_map.mp h)).2.2 y hy x (List.mem_cons_self ..)
    rw [extendB_cons, bInsert_append_of_lt acc _ _ hlt, ih _ (by rwa [List.append_assoc]),
      List.append_assoc]
    rfl

theorem fromList_of_sorted {α} (m : List (String × α)) (h : Sorted m) : fromList m = m :=
  extendB_append [] m h

theorem mem_bInsert {α} {m : List (String × α)} {k : String} {v : α} {x : String × α}
    (h : x ∈ bInsert m k v) : x = (k, v) ∨ x ∈ m := by
  fun_induction bInsert m k v with
  | case1 => exact Or.inl (List.mem_singleton.mp h)
  | case2 => exact List.mem_cons.mp h
  | case3 => exact (List.mem_cons.mp h).imp_right (List.mem_cons_of_mem _)
  | case4 _ _ _ _ _ _ _ ih =>
    exact (List.mem_cons.mp h).elim (fun e => Or.inr (e ▸ List.mem_cons_self ..))
      fun h => (ih h).imp_right (List.mem_cons_of_mem _)

theorem Sorted.bInsert {α} {m : List (String × α)} (h : Sorted m) (k : String) (v : α) :
    Sorted (bInsert m k v) := by
  fun_induction Serde.bInsert m k v with
  | case1 => exact sorted_cons.mpr ⟨List.forall_mem_nil _, Sorted.nil⟩
  | case2 _ _ _ _ _ hk =>
    exact sorted_cons.mpr
      ⟨List.forall_mem_cons.mpr ⟨hk, fun z hz => String.lt_trans hk ((sorted_cons.mp h).1 z hz)⟩, h⟩
  | case3 => exact sorted_cons.mpr (sorted_cons.mp h)
  | case4 k' _ _ k _ hlt hne ih =>
    obtain ⟨hk', hrest⟩ := sorted_cons.mp h
    have hk : k' < k := Std.lt_of_le_of_ne hlt (Ne.symm hne)
    exact sorted_cons.mpr ⟨fun z hz => (mem_bInsert hz).elim (· ▸ hk) (hk' z), ih hrest⟩

theorem Sorted.extendB {α} {m : List (String × α)} (h : Sorted m) (xs : List (String × α)) :
    Sorted (extendB m xs) :=
  List.foldlRecOn xs _ h fun _ hacc _ _ => hacc.bInsert _ _

theorem sorted_fromList {α} (xs : List (String × α)) : Sorted (fromList xs) :=
  Sorted.nil.extendB xs

theorem mem_extendB {α} {m xs : List (String × α)} {x : String × α} (h : x ∈ extendB m xs) :
    x ∈ m ∨ x ∈ xs :=
  List.foldlRecOn (motive := fun acc => x ∈ acc → x ∈ m ∨ x ∈ xs) xs _ Or.inl
    (fun _ ih _ hy hx => (mem_bInsert hx).elim (fun e => Or.inr (e ▸ hy)) ih) h

theorem traverse_cons {α β} (f : α → R β) (x : α) (xs : List α) :
    traverse f (x :: xs) = f x >>= fun y => (traverse f xs).map (y :: ·) := by
  rw [traverse]
  cases f x with
  | error e => rfl
  | ok y => cases traverse f xs <;> rfl

theorem traverse_map_ok {α β} (f : α → β) (g : β → R α) (xs : List α)
    (h : ∀ x ∈ xs, g (f x) = .ok x) : traverse g (xs.map f) = .ok xs := by
  induction xs with
  | nil => rfl
  | cons x xs ih =>
    rw [List.map_cons, traverse_cons, h x (List.mem_cons_self ..),
      ih fun y hy => h y (List.mem_cons_of_mem _ hy)]
    rfl

theorem traverse_forall {α β} {f : α → R β} {P : β → Prop} (hf : ∀ x y, f x = .ok y → P y)
    {xs : List α} {ys : List β} (h : traverse f xs = .ok ys) : ∀ y ∈ ys, P y := by
  induction xs generalizing ys with
  | nil => cases h; exact List.forall_mem_nil _
  | cons x xs ih =>
    obtain ⟨y, hy, h⟩ := bind_ok.mp (traverse_cons f x xs ▸ h)
    obtain ⟨ys, hys, rfl⟩ := map_ok.mp h
    exact List.forall_mem_cons.mpr ⟨hf x y hy, ih hys⟩

theorem deMapV_ok {α} {dec : Val → R α} {v : Val} {m : List (String × α)} :
    deMapV dec v = .ok m ↔
      ∃ kvs es, entriesV v = .ok kvs ∧ traverse (decEntry dec) kvs = .ok es ∧ fromList es = m := by
  unfold deMapV
  cases entriesV v <;> simp [map_ok]

theorem deMapV_sorted {α} {dec : Val → R α} {v : Val} {m : List (String × α)}
    (h : deMapV dec v = .ok m) : Sorted m := by
  obtain ⟨_, es, _, _, rfl⟩ := deMapV_ok.mp h
  exact sorted_fromList es

theorem deMapV_values {α} {dec : Val → R α} {P : α → Prop} (hd : ∀ v x, dec v = .ok x → P x)
    {v : Val} {m : List (String × α)} (h : deMapV dec v = .ok m) : ∀ kv ∈ m, P kv.2 := by
  obtain ⟨kvs, es, _, hes, rfl⟩ := deMapV_ok.mp h
  refine fun kv hkv => traverse_forall (P := fun e => P e.2) ?_ hes kv
    ((mem_extendB hkv).resolve_left List.not_mem_nil)
  intro x y hxy
  obtain ⟨a, ha, rfl⟩ := map_ok.mp hxy
  exact hd _ _ ha

theorem deMapV_roundtrip {α} (dec : Val → R α) (s : α → Val) (m : List (String × α))
    (hs : Sorted m) (h : ∀ kv ∈ m, dec (s kv.2) = .ok kv.2) :
    deMapV dec (.map (m.map fun kv => (kv.1, s kv.2))) = .ok m :=
  deMapV_ok.mpr ⟨_, m, rfl,
    traverse_map_ok _ _ m fun kv hkv => by simp [decEntry, h kv hkv, Except.map],
    fromList_of_sorted m hs⟩

theorem filter_optE (k k' : String) (o : Option Val) :
    (optE k' o).filter (fun kv => kv.1 = k) = if k' = k then optE k' o else [] := by
  cases o with
  | none => exact (ite_self _).symm
  | some v => by_cases h : k' = k <;> simp [optE, h]

theorem pick_optE (k k' : String) (o : Option Val) : pick k (optE k' o) = .ok o := by
  cases o <;> rfl

theorem pick_nil (k : String) : pick k [] = .ok none := rfl

theorem optOr_some {α} (v : Val) (d : α) (dec : Val → R α) : optOr (some v) d dec = dec v := rfl

theorem optOr_skip {α} [DecidableEq α] {x d : α} {w : Val} {dec : Val → R α} (h : dec w = .ok x) :
    optOr (if x = d then none else some w) d dec = .ok x := by
  by_cases hx : x = d
  · simp [hx, optOr]
  · simp [hx, optOr, h]

theorem optOr_map {α} {o : Option α} {s : α → Val} {dec : Val → R (Option α)}
    (h : ∀ x ∈ o, dec (s x) = .ok (some x)) : optOr (o.map s) none dec = .ok o := by
  cases o with
  | none => rfl
  | some x => exact h x rfl

theorem optOr_nonEmpty {α} (m : List α) (v : Val) (dec : Val → R (List α)) (h : dec v = .ok m) :
    optOr (nonEmpty m v) [] dec = .ok m := by
  cases m <;> simp [nonEmpty, optOr, h]

theorem optOr_trueIf (b : Bool) : optOr (trueIf b) false deBool = .ok b := by
  cases b <;> rfl

theorem deSeqV_seq {α} (dec : Val → R α) (xs : List Val) : deSeqV dec (.seq xs) = traverse dec xs := rfl

theorem deSeqC_seq {α} (dec : Val → R α) (xs : List Val) : deSeqC dec (.seq xs) = traverse dec xs := rfl

theorem deUnitEnumC_str {α} {ofName : String → Option α} {s : String} {x : α} (h : ofName s = some x) :
    deUnitEnumC ofName (.str s) = .ok x := by
  simp [deUnitEnumC, h]

section
attribute [local simp] fieldOf List.filter_append filter_optE pick_optE pick_nil need optOr_skip optOr_map
  entriesV deSeqV_seq deSeqC_seq deStr bind Except.bind Except.map

theorem rt_strs (xs : List String) : traverse deStr (xs.map Val.str) = .ok xs :=
  traverse_map_ok _ _ _ (fun _ _ => rfl)

theorem rt_deprecatedFields (strs : Val → R (List String)) (d : Deprecated)
    (h : strs (serStrs d.replace) = .ok d.replace) :
    deDeprecatedFields strs
      (optE "message" (some (.str d.message)) ++ optE "replace" (some (serStrs d.replace))) = .ok d := by
  simp [deDeprecatedFields, optOr, h]

theorem rt_deprecatedV (d : Deprecated) : deOptDeprecatedV (serDeprecated d) = .ok (some d) := by
  simp [deOptDeprecatedV, serDeprecated, deDeprecatedV,
    rt_deprecatedFields (deSeqV deStr) d (by simp [serStrs, rt_strs])]

theorem rt_deprecatedC (d : Deprecated) : deOptDeprecatedC (serDeprecated d) = .ok (some d) := by
  simp [deOptDeprecatedC, serDeprecated, deDeprecatedC,
    rt_deprecatedFields (deSeqC deStr) d (by simp [serStrs, rt_strs])]

theorem rt_required (r : Required) : deRequired (serRequired r) = .ok r := by
  cases r with
  | notRequired => rfl
  | required m => cases m <;> rfl

theorem rt_argType (t : ArgType) : deArgType (serArgType t) = .ok t := by
  cases t with
  | constant xs => simp [serArgType, serStrs, deArgType, rt_strs]
  | display s => simp [serArgType, deArgType, traverse, decEntry, lastDisplay]
  | _ => simp [serArgType, deArgType, argTypeOfName]

theorem rt_observes (o : Observes) : deObserves (.str (observesName o)) = .ok o :=
  deUnitEnumC_str (by cases o <;> simp [observesName, observesOfName])

theorem rt_writability (w : Writability) : deWritability (.str (writabilityName w)) = .ok w :=
  deUnitEnumC_str (by cases w <;> simp [writabilityName, writabilityOfName])

theorem rt_arg (a : Argument) : deArg (serArg a) = .ok a := by
  simp [deArg, serArg, serArgEntries, deArgFields, rt_required, rt_argType, rt_observes, rt_deprecatedC]

theorem rt_function (f : FunctionBehavior) : tryFunction (serFunctionEntries f) = .ok f := by
  simp [tryFunction, serFunctionEntries, optOr_trueIf,
    traverse_map_ok serArg deArg f.args fun a _ => rt_arg a]

theorem rt_kind (k : FieldKind) : deKind (serKindEntries k) = .ok k := by
  cases k with
  | function f =>
    have h1 : tryTrue (serFunctionEntries f) "any" = .error "missing field `any`" := by
      simp [tryTrue, serFunctionEntries]
    simp [deKind, serKindEntries, h1, rt_function]
  -- every earlier variant fails for want of its key
  | _ => simp [deKind, serKindEntries, tryTrue, tryFunction, tryProperty, tryStruct, deTrueOnly, rt_writability]

theorem kind_no_deprecated (k : FieldKind) :
    (serKindEntries k).filter (fun kv => kv.1 = "deprecated") = [] := by
  cases k <;> simp [serKindEntries, serFunctionEntries]

theorem kind_filter_notDep (k : FieldKind) :
    (serKindEntries k).filter notDeprecatedKey = serKindEntries k :=
  List.filter_eq_self.mpr fun kv h => bne_iff_ne.mpr fun e =>
    List.filter_eq_nil_iff.mp (kind_no_deprecated k) kv h (decide_eq_true e)

theorem filter_notDep_optE (o : Option Val) :
    (optE "deprecated" o).filter notDeprecatedKey = [] := by
  cases o <;> simp [optE, notDeprecatedKey]

theorem rt_field (f : Field) : deField (serField f) = .ok f := by
  simp [deField, serField, kind_no_deprecated, kind_filter_notDep, filter_notDep_optE, rt_deprecatedV, rt_kind]

theorem rt_fieldMap (m : FieldMap) (h : Sorted m) : deMapV deField (serFieldMap m) = .ok m :=
  deMapV_roundtrip deField serField m h (fun kv _ => rt_field kv.2)

theorem rt_structs (ss : List (String × FieldMap)) (h : Sorted ss) (hf : ∀ s ∈ ss, Sorted s.2) :
    deMapV (deMapV deField) (.map (ss.map serStructEntry)) = .ok ss :=
  deMapV_roundtrip (deMapV deField) serFieldMap ss h (fun kv hkv => rt_fieldMap kv.2 (hf kv hkv))

theorem rt_class (c : RobloxClass) : deClass (serClass c) = .ok c := by
  simp [deClass, serClass, serStrs, rt_strs]

theorem rt_classes (cs : List (String × RobloxClass)) (h : Sorted cs) :
    deMapV deClass (.map (cs.map serClassEntry)) = .ok cs :=
  deMapV_roundtrip deClass serClass cs h (fun kv _ => rt_class kv.2)

theorem versionOfName_unknown {s : String} (h : s ∉ knownVersionNames) :
    versionOfName s = .unknown s := by
  simp only [knownVersionNames, List.mem_cons, List.not_mem_nil, or_false, not_or] at h
  simp [versionOfName, h]

theorem versionOfName_name (v : LuaVersion) (h : VersionOk v) : versionOfName (versionName v) = v := by
  cases v with
  | unknown s => exact versionOfName_unknown h
  | _ => simp [versionName, versionOfName]

theorem rt_versions (vs : List LuaVersion) (h : ∀ v ∈ vs, VersionOk v) :
    deSeqV deVersion (.seq (vs.map serVersion)) = .ok vs :=
  traverse_map_ok _ _ _ fun v hv => by simp [deVersion, serVersion, versionOfName_name v (h v hv)]

-- not `rfl`: simp would not use it to discharge the hypothesis of `optOr_map`
theorem rt_optStr (s : String) : deOptStrV (.str s) = .ok (some s) := by
  simp [deOptStrV]

theorem optOr_i64 (o : Option Int) (h : I64Ok o) : optOr (o.map Val.int) none deOptI64V = .ok o :=
  optOr_map fun n hn => if_pos (show I64Ok (some n) from hn ▸ h)

theorem libKeys_ok (l : FullLib) : (serLibEntries l).all knownLibKey = true := by
  have h : ∀ k ∈ libKeys, ∀ o, (optE k o).all knownLibKey = true := by
    intro k hk o
    cases o <;> simp [optE, knownLibKey, hk]
  simp only [libKeys, List.forall_mem_cons] at h
  simp only [serLibEntries, List.all_append, h, Bool.and_self]

theorem rt_lib (l : FullLib) (h : WF l) : de (ser l) = .ok l := by
  rw [de, ser, entriesV, ok_bind, if_pos (libKeys_ok l)]
  simp [serLibEntries, rt_optStr, optOr_i64 _ h.lastUpdated,
    optOr_nonEmpty _ _ _ (rt_fieldMap _ h.globals),
    optOr_nonEmpty _ _ _ (rt_structs _ h.structs h.structFields),
    optOr_nonEmpty _ _ _ (rt_classes _ h.classes),
    optOr_some, rt_versions _ h.versions]

end

theorem versionOk_ofName (s : String) : VersionOk (versionOfName s) := by
  fun_cases versionOfName s
  iterate 6 trivial
  next h51 h52 h53 h54 hluau hjit =>
    show s ∉ knownVersionNames
    simp only [knownVersionNames, List.mem_cons, List.not_mem_nil, or_false, not_or]
    exact ⟨h51, h52, h53, h54, hluau, hjit⟩

theorem optOr_elim {α} {o : Option Val} {d : α} {dec : Val → R α} {x : α} {P : α → Prop}
    (h : optOr o d dec = .ok x) (hd : P d) (hdec : ∀ v, dec v = .ok x → P x) : P x := by
  cases o with
  | none => cases h; exact hd
  | some v => exact hdec v h

theorem deOptI64V_ok {v : Val} {o : Option Int} (h : deOptI64V v = .ok o) : I64Ok o := by
  unfold deOptI64V at h
  split at h
  · cases h; trivial
  · split at h
    · cases h; assumption
    · cases h
  · cases h

theorem deSeqV_forall {α} {dec : Val → R α} {P : α → Prop} (hd : ∀ v x, dec v = .ok x → P x)
    {v : Val} {xs : List α} (h : deSeqV dec v = .ok xs) : ∀ x ∈ xs, P x := by
  unfold deSeqV at h
  split at h
  · exact traverse_forall hd h
  · cases h; exact List.forall_mem_nil _
  · cases h

theorem deVersion_ok {w : Val} {x : LuaVersion} (h : deVersion w = .ok x) : VersionOk x := by
  obtain ⟨a, _, rfl⟩ := map_ok.mp h
  exact versionOk_ofName a

theorem loaded_wf (v : Val) (l : FullLib) (h : de v = .ok l) : WF l := by
  unfold de at h
  obtain ⟨kvs, _, h⟩ := bind_ok.mp h
  split at h
  · iterate 10 obtain ⟨_, _, h⟩ := bind_ok.mp h  -- lookups, `base`, `name`
    simp only [bind_ok, Except.ok.injEq] at h
    obtain ⟨globals, hg, structs, hs, luaVersions, hlv, lastUpdated, hlu, _, _, classes, hc, rfl⟩ := h
    exact {
      globals := optOr_elim hg Sorted.nil fun _ => deMapV_sorted
      structs := optOr_elim hs Sorted.nil fun _ => deMapV_sorted
      structFields := optOr_elim (P := fun m => ∀ s ∈ m, Sorted s.2) hs (List.forall_mem_nil _)
        fun _ => deMapV_values (P := fun m => Sorted m) fun _ _ => deMapV_sorted
      versions := optOr_elim (P := fun m => ∀ x ∈ m, VersionOk x) hlv (List.forall_mem_nil _)
        fun _ => deSeqV_forall fun _ _ => deVersion_ok
      lastUpdated := optOr_elim hlu trivial fun _ => deOptI64V_ok
      classes := optOr_elim hc Sorted.nil fun _ => deMapV_sorted }
  · cases h

theorem sorted_upgradeFields (m : List (String × V1Field)) : Sorted (upgradeFields m) :=
  List.foldlRecOn m _ Sorted.nil fun _ hacc _ _ => hacc.extendB _

theorem upgradeStructs_wf (o : Option (List (String × List (String × V1Field)))) :
    Sorted (upgradeStructs o) ∧ ∀ s ∈ upgradeStructs o, Sorted s.2 := by
  cases o with
  | none => exact ⟨Sorted.nil, List.forall_mem_nil _⟩
  | some ss =>
    apply List.foldlRecOn (motive := fun acc => Sorted acc ∧ ∀ s ∈ acc, Sorted s.2) ss _
      ⟨Sorted.nil, List.forall_mem_nil _⟩
    intro acc h x _
    exact ⟨h.1.bInsert _ _, fun s hs => (mem_bInsert hs).elim (· ▸ sorted_upgradeFields _) (h.2 s)⟩

theorem upgrade_wf (v : V1Lib) : WF (upgrade v) := by
  have wf (b n : Option String) (o : Option (List (String × List (String × V1Field)))) :
      WF { core := { base := b, name := n, structs := upgradeStructs o,
                     globals := upgradeFields v.globals } } :=
    { globals := sorted_upgradeFields _, structs := (upgradeStructs_wf o).1,
      structFields := (upgradeStructs_wf o).2, versions := List.forall_mem_nil _, lastUpdated := trivial,
      classes := Sorted.nil }
  unfold upgrade
  split
  · exact wf none none none
  · exact wf _ _ _

theorem wfB_iff (l : FullLib) : wfB l = true ↔ WF l := by
  simp only [wfB, Bool.and_eq_true, decide_eq_true_eq, List.all_eq_true, and_assoc]
  constructor
  · rintro ⟨h1, h2, h3, h4, h5, h6⟩
    exact ⟨h1, h2, h3, h4, h5, h6⟩
  · rintro ⟨h1, h2, h3, h4, h5, h6⟩
    exact ⟨h1, h2, h3, h4, h5, h6⟩

instance (l : FullLib) : Decidable (WF l) := decidable_of_iff _ (wfB_iff l)

end Selene.Std.Serde
