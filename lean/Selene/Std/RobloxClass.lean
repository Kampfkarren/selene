/-
`RobloxClass::has_property` / `has_event` (selene-lib/src/standard_library/mod.rs): the class itself
followed by its superclasses, looked up by name in `roblox_classes`; at most as many classes are visited
as there are (+ the starting one), so a hierarchy read from a file that contains a cycle cannot keep the
walk going (plain recursion along the links, as up to /repo 0720cb5, overflows the stack).
-/
namespace Selene.Std.Roblox

structure Class where
  superclass : String
  events : List String
  properties : List String
deriving DecidableEq, Repr, Inhabited

/-- `BTreeMap<String, RobloxClass>` as an association list (first entry for a key wins; keys are distinct
    in anything that comes out of a map) -/
abbrev Classes := List (String × Class)

def get (cs : Classes) (name : String) : Option Class := (cs.find? (·.1 = name)).map (·.2)

/-- `std::iter::successors(Some(self), |c| roblox_classes.get(&c.superclass)).take(n)` -/
def ancestry (cs : Classes) : Nat → Class → List Class
  | 0, _ => []
  | n + 1, c =>
    c :: (match get cs c.superclass with
      | some s => ancestry cs n s
      | none => [])

def hasProperty (cs : Classes) (c : Class) (p : String) : Bool :=
  (ancestry cs (cs.length + 1) c).any fun k => k.properties.contains p

def hasEvent (cs : Classes) (c : Class) (e : String) : Bool :=
  (ancestry cs (cs.length + 1) c).any fun k => k.events.contains e

/-- the `k`-th superclass of `c` (0 = `c` itself), following the links for as long as they resolve -/
def nthSuper (cs : Classes) : Nat → Class → Option Class
  | 0, c => some c
  | k + 1, c => (get cs c.superclass).bind (nthSuper cs k)

theorem ancestry_length (cs : Classes) (n : Nat) (c : Class) : (ancestry cs n c).length ≤ n := by
  induction n generalizing c with
  | zero => exact Nat.le_refl 0
  | succ n ih =>
    rw [ancestry]
    cases get cs c.superclass with
    | none => exact Nat.succ_le_succ n.zero_le
    | some s => exact Nat.succ_le_succ (ih s)

theorem mem_ancestry (cs : Classes) (n : Nat) (c x : Class) :
    x ∈ ancestry cs n c ↔ ∃ k, k < n ∧ nthSuper cs k c = some x := by
  induction n generalizing c with
  | zero => simp [ancestry]
  | succ n ih =>
    rw [ancestry, List.mem_cons, Nat.exists_lt_succ_left]
    refine or_congr ⟨fun h => h ▸ rfl, fun h => (Option.some.inj h).symm⟩ ?_
    show _ ↔ ∃ k, k < n ∧ (get cs c.superclass).bind (nthSuper cs k) = some x
    cases get cs c.superclass with
    | none => simp
    | some s => exact ih s

end Selene.Std.Roblox
