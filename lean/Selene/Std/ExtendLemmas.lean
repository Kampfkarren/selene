/-
Association lists model `BTreeMap`; `KeysNodup` is what a map guarantees and a list has to be told.
-/
import Selene.Std.Extend
namespace Selene.Std

def KeysNodup {α} (m : List (String × α)) : Prop := (m.map (·.1)).Nodup

theorem KeysNodup.tail {α} {kv : String × α} {m : List (String × α)} (h : KeysNodup (kv :: m)) :
    KeysNodup m :=
  (List.nodup_cons.mp h).2

theorem FieldMap.get_eq_getKV (m : FieldMap) (k : String) : m.get k = getKV m k := rfl

@[simp] theorem getKV_nil {α} (k : String) : getKV ([] : List (String × α)) k = none := rfl

theorem getKV_cons {α} (k' : String) (v' : α) (m : List (String × α)) (k : String) :
    getKV ((k', v') :: m) k = if k' = k then some v' else getKV m k := by
  by_cases h : k' = k <;> simp [getKV, h]

theorem getKV_eq_none {α} {m : List (String × α)} {k : String} :
    getKV m k = none ↔ ∀ v, (k, v) ∉ m := by
  rw [getKV, Option.map_eq_none_iff, List.find?_eq_none]
  exact ⟨fun h v hv => h _ hv (decide_eq_true rfl),
    fun h x hx e => h x.2 (of_decide_eq_true e ▸ (hx : (x.1, x.2) ∈ m))⟩

theorem getKV_none_of_head {α} {k : String} {v : α} {m : List (String × α)}
    (h : KeysNodup ((k, v) :: m)) : getKV m k = none :=
  getKV_eq_none.mpr fun _ hv => (List.nodup_cons.mp h).1 (List.mem_map_of_mem (f := (·.1)) hv)

theorem getKV_mem {α} {m : List (String × α)} {k : String} {v : α} (h : getKV m k = some v) :
    (k, v) ∈ m := by
  obtain ⟨⟨k', v'⟩, hf, rfl⟩ := Option.map_eq_some_iff.mp h
  have hk : k' = k := of_decide_eq_true (List.find?_some hf :)
  exact hk ▸ List.mem_of_find?_eq_some hf

theorem getKV_of_mem {α} {m : List (String × α)} (hn : KeysNodup m) {k : String} {v : α}
    (h : (k, v) ∈ m) : getKV m k = some v := by
  induction m with
  | nil => cases h
  | cons kv rest ih =>
    rcases List.mem_cons.mp h with rfl | h
    · exact (getKV_cons ..).trans (if_pos rfl)
    · have hk : kv.1 ≠ k := fun e => (List.nodup_cons.mp hn).1 (List.mem_map.mpr ⟨_, h, e.symm⟩)
      exact (getKV_cons ..).trans ((if_neg hk).trans (ih hn.tail h))

theorem getKV_insertKV {α} (m : List (String × α)) (k : String) (v : α) (k' : String) :
    getKV (insertKV m k v) k' = if k = k' then some v else getKV m k' := by
  fun_induction insertKV m k v with
  | case1 => exact getKV_cons ..
  | case2 v₀ rest => rw [getKV_cons, getKV_cons]; split <;> rfl
  | case3 k₀ v₀ rest h ih =>
    rw [getKV_cons, getKV_cons, ih]
    by_cases h0 : k₀ = k'
    · rw [if_pos h0, if_neg (h0 ▸ Ne.symm h), if_pos h0]
    · rw [if_neg h0, if_neg h0]

theorem getKV_extendKV {α} (m xs : List (String × α)) (hx : KeysNodup xs) (k : String) :
    getKV (extendKV m xs) k = (getKV xs k).or (getKV m k) := by
  induction xs generalizing m with
  | nil => rfl
  | cons kv rest ih =>
    obtain ⟨k0, v0⟩ := kv
    show getKV (extendKV (insertKV m k0 v0) rest) k = _
    rw [ih _ hx.tail, getKV_insertKV, getKV_cons]
    by_cases h : k0 = k
    · subst h; simp [getKV_none_of_head hx]
    · simp [h]

theorem eq_or_mem_keys_of_mem_insertKV {α} (m : List (String × α)) (k : String) (v : α) (k' : String)
    (h : k' ∈ (insertKV m k v).map (·.1)) : k' = k ∨ k' ∈ m.map (·.1) := by
  fun_induction insertKV m k v with
  | case1 => exact Or.inl (List.mem_singleton.mp h)
  | case2 v₀ rest => exact (List.mem_cons.mp h).imp_right (List.mem_cons_of_mem _)
  | case3 k₀ v₀ rest h0 ih =>
    rcases List.mem_cons.mp h with h | h
    · exact Or.inr (h ▸ List.mem_cons_self)
    · exact (ih h).imp_right (List.mem_cons_of_mem _)

theorem KeysNodup.insertKV {α} {m : List (String × α)} (h : KeysNodup m) (k : String) (v : α) :
    KeysNodup (insertKV m k v) := by
  fun_induction Std.insertKV m k v with
  | case1 => exact List.nodup_cons.mpr ⟨List.not_mem_nil, List.nodup_nil⟩
  | case2 v₀ rest => exact h
  | case3 k₀ v₀ rest h0 ih =>
    exact List.nodup_cons.mpr ⟨fun hm => (eq_or_mem_keys_of_mem_insertKV rest k v k₀ hm).elim h0 (List.nodup_cons.mp h).1, ih h.tail⟩

theorem KeysNodup.extendKV {α} {m : List (String × α)} (h : KeysNodup m) (xs : List (String × α)) :
    KeysNodup (extendKV m xs) :=
  List.foldlRecOn xs _ h fun _ hacc _ _ => hacc.insertKV _ _

theorem KeysNodup.nil {α} : KeysNodup ([] : List (String × α)) := List.nodup_nil

theorem KeysNodup.filter {α} {m : List (String × α)} (h : KeysNodup m) (p : String × α → Bool) :
    KeysNodup (m.filter p) :=
  List.Nodup.sublist (List.filter_sublist.map _) h

theorem getKV_eq_some {α} {m : List (String × α)} (hn : KeysNodup m) {k : String} {v : α} :
    getKV m k = some v ↔ (k, v) ∈ m :=
  ⟨getKV_mem, getKV_of_mem hn⟩

theorem getKV_filter {α} (m : List (String × α)) (hn : KeysNodup m) (p : String × α → Bool) (k : String) :
    getKV (m.filter p) k = (getKV m k).filter fun v => p (k, v) :=
  Option.ext fun v => by
    rw [getKV_eq_some (hn.filter p), List.mem_filter, Option.filter_eq_some_iff, getKV_eq_some hn]

end Selene.Std
