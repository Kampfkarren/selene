/-
Lemmas about the whole-program library lints of `Std/Prog.lean`: every diagnostic is about a use whose
name path starts with the text of an identifier token, and the gate found no resolved reference at that
token; the hooks depend on the scope analysis only through the gate.
-/
import Selene.Std.Prog
namespace Selene.Std.Prog
open Selene.Lua Selene.Lints

/-- a diagnostic about a name path rooted at identifier token `t`, whose gate was open -/
def Rooted (R : Nat → Bool) (g : PDiag) : Prop :=
  ∃ t : Tok, g.root = t.idx ∧ g.path.head? = some t.text ∧ R t.idx = false

theorem namePathPS_root {p : Prefix} {ss : List Suffix} {path : List String}
    (h : namePathPS p ss = some path) : ∃ t : Tok, prefixStart p = t.idx ∧ path.head? = some t.text := by
  cases p with
  | name t =>
    obtain ⟨_, _, rfl⟩ := Option.map_eq_some_iff.mp h
    exact ⟨t, rfl, rfl⟩
  | expr e => cases h

theorem namePathE_root {e : Lua.Expr} {path : List String} (h : namePathE e = some path) :
    ∃ t : Tok, exprStart e = t.idx ∧ path.head? = some t.text := by
  revert h
  fun_cases namePathE e
  · exact namePathPS_root
  next t => rintro ⟨⟩; exact ⟨t, rfl, rfl⟩
  · nofun

theorem callStmtPathGo_prefix (ss : List Suffix) (acc path : List String)
    (h : callStmtPathGo ss acc = some path) : acc <+: path := by
  -- 1 no suffix left, 2 `.name`, 3 `[…]`, 4 / 5 a call that is / is not the last suffix, 6 / 7 the same for a method call
  fun_induction callStmtPathGo ss acc with
  | case1 | case4 | case6 => cases h; exact List.prefix_rfl
  | case3 | case5 | case7 => cases h
  | case2 _ n _ _ ih => exact (List.prefix_append _ _).trans (ih h)
  | case8 _ _ _ ih => exact ih h

theorem callStmtPath_root {sp : Span} {p : Prefix} {ss : SuffixList} {path : List String}
    (h : callStmtPath (.mk sp p ss) = some path) : ∃ t : Tok, prefixStart p = t.idx ∧ path.head? = some t.text := by
  cases p with
  | expr e => cases h
  | name t =>
    obtain ⟨more, rfl⟩ := callStmtPathGo_prefix _ _ _ h
    exact ⟨t, rfl, rfl⟩

variable (l : SegLib) (R : Nat → Bool)

theorem Rooted.of_site {start : Nat} {path : List String} {g : PDiag}
    (hp : ∃ t : Tok, start = t.idx ∧ path.head? = some t.text) (hr : ¬R start = true)
    (hroot : g.root = start) (hpath : g.path = path) : Rooted R g := by
  obtain ⟨t, rfl, hh⟩ := hp
  exact ⟨t, hroot, hpath ▸ hh, Bool.eq_false_iff.mpr hr⟩

theorem stdExpr_rooted (e : Lua.Expr) : ∀ g ∈ stdExpr l R e, Rooted R g := by
  fun_cases stdExpr l R e with
  | case3 hgate path hpath =>
    exact List.forall_mem_map.mpr fun _ _ => .of_site R (namePathE_root hpath) hgate rfl rfl
  | _ => exact List.forall_mem_nil _

theorem stdCall_rooted (c : FCall) : ∀ g ∈ stdCall l R c, Rooted R g := by
  fun_cases stdCall l R c with
  -- the two branches that report: the path names no field; the field is found and the call is checked against it
  | case4 _ _ _ hgate _ path hpath | case6 _ _ _ hgate _ path hpath =>
    exact List.forall_mem_map.mpr fun _ _ => .of_site R (namePathPS_root hpath) hgate rfl rfl
  | _ => exact List.forall_mem_nil _

theorem targetOf_rooted (v : Var) (h : targetProblems l (targetOf R v) ≠ []) :
    ∃ t : Tok, varStart v = t.idx ∧ (targetPath (targetOf R v)).head? = some t.text ∧ R t.idx = false := by
  revert h
  fun_cases targetOf R v
  case case1 t => exact fun h => ⟨t, rfl, rfl, Bool.eq_false_iff.mpr fun hr => h (by rw [hr]; rfl)⟩
  case case4 hr _ _ hp =>
    obtain ⟨t, ht, hh⟩ := namePathPS_root hp
    exact fun _ => ⟨t, ht, hh, ht ▸ Bool.eq_false_iff.mpr hr⟩
  all_goals exact fun h => absurd rfl h

theorem stdTargets_eq_flatMap (vs : VarList) :
    stdTargets l R vs = vs.toList.flatMap fun v => (targetProblems l (targetOf R v)).map fun pr =>
      ({ code := "incorrect_standard_library_use", span := v.span, kind := .access pr,
         path := targetPath (targetOf R v), root := varStart v } : PDiag) := by
  fun_induction stdTargets l R vs with
  | case1 => rfl
  | case2 _ _ _ ih => exact congrArg (_ ++ ·) ih

theorem stdHook_rooted (n : Lints.Node) : ∀ g ∈ stdHook l R n, Rooted R g := by
  fun_cases stdHook l R n
  · exact stdExpr_rooted l R _
  · exact stdCall_rooted l R _
  · rw [stdTargets_eq_flatMap]
    refine List.forall_mem_flatMap.mpr fun v _ => List.forall_mem_map.mpr fun pr hpr => ?_
    exact targetOf_rooted l R v (List.ne_nil_of_mem hpr)
  · exact List.forall_mem_nil _

/-- **every `incorrect_standard_library_use` diagnostic of a program is rooted at an identifier whose
first reference the gate found unresolved** -/
theorem stdLint_rooted (b : Block) (g : PDiag) (h : g ∈ stdLint l R b) : Rooted R g := by
  obtain ⟨n, _, hg⟩ := List.mem_flatMap.mp h
  exact stdHook_rooted l R n g hg

theorem checkNamePath_rooted {start : Nat} {path : List String}
    (hp : ∃ t : Tok, start = t.idx ∧ path.head? = some t.text) (hr : ¬R start = true)
    {allow : List (List String)} {span : Span} {what : String} {args : List (Bool × Span)} :
    ∀ g ∈ checkNamePath l allow span start what path args, Rooted R g := by
  fun_cases checkNamePath l allow span start what path args
  · exact List.forall_mem_nil _
  · refine List.forall_mem_append.mpr ⟨List.forall_mem_map.mpr fun _ _ => .of_site R hp hr rfl rfl, ?_⟩
    split
    · exact List.forall_mem_map.mpr fun _ _ => .of_site R hp hr rfl rfl
    · exact List.forall_mem_nil _

theorem deprExpr_rooted (allow : List (List String)) (e : Lua.Expr) : ∀ g ∈ deprExpr l R allow e, Rooted R g := by
  fun_cases deprExpr l R allow e with
  | case3 hgate path hpath => exact checkNamePath_rooted l R (namePathE_root hpath) hgate
  | _ => exact List.forall_mem_nil _

theorem deprCall_rooted (allow : List (List String)) (c : FCall) : ∀ g ∈ deprCall l R allow c, Rooted R g := by
  fun_cases deprCall l R allow c with
  -- the last suffix taken is a call's arguments, or a method call
  | case3 _ _ _ hgate _ path hpath | case4 _ _ _ hgate _ path hpath =>
    exact checkNamePath_rooted l R (namePathPS_root hpath) hgate
  | _ => exact List.forall_mem_nil _

theorem deprecatedLint_rooted (allow : List (List String)) (b : Block) (g : PDiag)
    (h : g ∈ deprecatedLint l R allow b) : Rooted R g := by
  obtain ⟨n, _, hg⟩ := List.mem_flatMap.mp h
  cases n with
  | expr e => exact deprExpr_rooted l R allow e g hg
  | call c => exact deprCall_rooted l R allow c g hg
  | stmt _ => cases hg
  | table _ _ => cases hg

theorem mustUseStmt_rooted (s : Stmt) : ∀ g ∈ mustUseStmt l R s, Rooted R g := by
  fun_cases mustUseStmt l R s with
  | case3 _ _ _ path hpath hgate =>
    exact List.forall_mem_singleton.mpr (.of_site R (callStmtPath_root hpath) hgate rfl rfl)
  | _ => exact List.forall_mem_nil _

theorem mustUseLint_rooted (b : Block) (g : PDiag) (h : g ∈ mustUseLint l R b) : Rooted R g := by
  obtain ⟨n, _, hg⟩ := List.mem_flatMap.mp h
  cases n with
  | stmt s => exact mustUseStmt_rooted l R s g hg
  | _ => cases hg

theorem stdExpr_congr (R' : Nat → Bool) (e : Lua.Expr) (h : R (exprStart e) = R' (exprStart e)) :
    stdExpr l R e = stdExpr l R' e := by
  unfold stdExpr; rw [h]

theorem stdCall_congr (R' : Nat → Bool) (sp : Span) (p : Prefix) (ss : SuffixList)
    (h : R (prefixStart p) = R' (prefixStart p)) :
    stdCall l R (.mk sp p ss) = stdCall l R' (.mk sp p ss) := by
  rw [stdCall, stdCall, h]

theorem deprExpr_congr (R' : Nat → Bool) (allow : List (List String)) (e : Lua.Expr)
    (h : R (exprStart e) = R' (exprStart e)) : deprExpr l R allow e = deprExpr l R' allow e := by
  unfold deprExpr; rw [h]

theorem deprCall_congr (R' : Nat → Bool) (allow : List (List String)) (sp : Span) (p : Prefix) (ss : SuffixList)
    (h : R (prefixStart p) = R' (prefixStart p)) :
    deprCall l R allow (.mk sp p ss) = deprCall l R' allow (.mk sp p ss) := by
  rw [deprCall, deprCall, h]

theorem mustUseStmt_congr (R' : Nat → Bool) (sp : Span) (p : Prefix) (ss : SuffixList)
    (h : R (prefixStart p) = R' (prefixStart p)) :
    mustUseStmt l R (.call (.mk sp p ss)) = mustUseStmt l R' (.call (.mk sp p ss)) := by
  rw [mustUseStmt, mustUseStmt, h]

end Selene.Std.Prog
