/-
Standard-library name lookup. `Doc.lookup` is the specification, written from docs/src/usage/std.md and the
property text directly on the flat key ↦ field map: no tree, only "is some defined key an extension of this
path". `walkTree_eq`: the walk over the tree of `extract_into_tree` computes the same; its invariant `Sub` says
that the level the walk stands on is, as far as `fieldAt` sees, the subtree at `p`.
-/
import Selene.Std.TrieLemmas
namespace Selene.Std
namespace Doc

/-- an explicit segment beats `*`; a segment is available when some defined key extends the path -/
def choose (m : SegMap) (p : Path) (s : String) : Option String :=
  if hasPrefix m (p ++ [s]) then some s
  else if hasPrefix m (p ++ ["*"]) then some "*"
  else none

/-- the entry defined at exactly this path, or the implicit read-only table -/
def fieldAtPath (m : SegMap) (q : Path) : Field :=
  match m.get q with
  | some f => f
  | none => readOnlyField

def walk (structs : List (String × SegMap)) (m : SegMap) (p : Path) : Path → Lookup
  | [] => .absent
  | [last] =>
    match choose m p last with
    | none => .absent
    | some s' => .found (fieldAtPath m (p ++ [s']))
  | s :: r :: rest =>
    match choose m p s with
    | none => .absent
    | some s' =>
      match (fieldAtPath m (p ++ [s'])).kind with
      | .any => .found (fieldAtPath m (p ++ [s']))
      | .struct n =>
        match getKV structs n with
        | none => .absent                -- a field naming an undefined struct leads nowhere
        | some strukt => walk structs strukt [] (r :: rest)
      | _ => walk structs m (p ++ [s']) (r :: rest)

/-- the documented resolution: explicit entry first, otherwise the segment walk -/
def lookup (l : SegLib) (names : Path) : Lookup :=
  match names with
  | [] => .panic "assert!(!names.is_empty())"
  | _ =>
    match l.globals.get names with
    | some f => .found f
    | none => walk l.structs l.globals [] names

end Doc

/-- `current` is, observationally, the subtree of `extractIntoTree m` at path `p` -/
def Sub (m : SegMap) (p : Path) (current : Children) : Prop :=
  ∀ q, q ≠ [] → fieldAt current q = fieldAt (extractIntoTree m) (p ++ q)

theorem Sub.root (m : SegMap) : Sub m [] (extractIntoTree m) := fun _ _ => rfl

theorem nodeFieldOf_fieldAt_extract (m : SegMap) (q : Path) (hne : KeysNonempty m) (hq : q ≠ [])
    {tf : TreeField} (h : fieldAt (extractIntoTree m) q = some tf) :
    nodeFieldOf m tf = some (Doc.fieldAtPath m q) := by
  rw [fieldAt_extract m q hne hq, hasKey_eq_isSome_get] at h
  unfold Doc.fieldAtPath
  cases hg : m.get q with
  | some f => rw [hg] at h; cases h; exact hg
  | none =>
    rw [hg] at h
    cases hp : hasPrefix m q with
    | false => rw [hp] at h; cases h
    | true =>
      rw [hp] at h
      obtain rfl : TreeField.readOnly = tf := Option.some.inj h
      rfl

theorem Sub.child {m : SegMap} {p : Path} {current : Children} (hsub : Sub m p current)
    {name : String} {n : Node} (hg : getKV current name = some n) : Sub m (p ++ [name]) n.children := by
  intro q hq
  rw [List.append_assoc, ← hsub ([name] ++ q) (by simp), List.singleton_append, fieldAt_cons_bind, hg]
  exact (if_neg hq).symm

theorem getKV_of_sub (m : SegMap) (p : Path) (current : Children) (name : String)
    (hsub : Sub m p current) (hne : KeysNonempty m) :
    (getKV current name).isSome = hasPrefix m (p ++ [name]) ∧
    ∀ n, getKV current name = some n →
      nodeFieldOf m n.field = some (Doc.fieldAtPath m (p ++ [name])) ∧ Sub m (p ++ [name]) n.children := by
  have hq : p ++ [name] ≠ [] := by simp
  have hf := hsub [name] (List.cons_ne_nil _ _)
  rw [fieldAt_single] at hf
  refine ⟨?_, fun n hg => ?_⟩
  · rw [← isSome_fieldAt_extract m _ hne hq, ← hf, Option.isSome_map]
  · rw [hg] at hf
    exact ⟨nodeFieldOf_fieldAt_extract m _ hne hq hf.symm, hsub.child hg⟩

theorem stepGet_of_sub (m : SegMap) (p : Path) (current : Children) (name : String)
    (hsub : Sub m p current) (hne : KeysNonempty m) :
    match stepGet current name with
    | none => Doc.choose m p name = none
    | some n => ∃ s', Doc.choose m p name = some s' ∧
      nodeFieldOf m n.field = some (Doc.fieldAtPath m (p ++ [s'])) ∧ Sub m (p ++ [s']) n.children := by
  obtain ⟨h1, h1'⟩ := getKV_of_sub m p current name hsub hne
  obtain ⟨h2, h2'⟩ := getKV_of_sub m p current "*" hsub hne
  unfold stepGet Doc.choose
  rw [← h1, ← h2]
  cases hg : getKV current name with
  | some n => exact ⟨name, rfl, h1' n hg⟩
  | none =>
    cases hs : getKV current "*" with
    | some n => exact ⟨"*", rfl, h2' n hs⟩
    | none => rfl

theorem walkTree_eq (structs : List (String × SegMap)) (hstructs : ∀ kv ∈ structs, KeysNonempty kv.2)
    (names : Path) :
    ∀ (m : SegMap) (p : Path) (current : Children), Sub m p current → KeysNonempty m →
      walkTree structs m current names = Doc.walk structs m p names := by
  induction names with
  | nil => intros; rfl
  | cons name more ih =>
    intro m p current hsub hne
    have hstep := stepGet_of_sub m p current name hsub hne
    cases hg : stepGet current name with
    | none =>
      rw [hg] at hstep
      cases more <;> simp only [walkTree, Doc.walk, hg, hstep]
    | some n =>
      rw [hg] at hstep
      obtain ⟨s', hc, hfield, hchildren⟩ := hstep
      cases more with
      | nil => simp only [walkTree, Doc.walk, hg, hc, hfield]
      | cons r rest =>
        simp only [walkTree, Doc.walk, hg, hc, hfield]
        cases hk : (Doc.fieldAtPath m (p ++ [s'])).kind with
        | any => rfl
        | struct sname =>
          simp only
          cases hsg : getKV structs sname with
          | none => rfl
          | some strukt =>
            exact ih strukt [] (extractIntoTree strukt) (Sub.root strukt) (hstructs _ (getKV_mem hsg))
        | _ => exact ih m (p ++ [s']) n.children hchildren hne

end Selene.Std
