/-
Model of `Deprecated::try_instead` (selene-lib/src/standard_library/mod.rs:478-520): the first
replacement format all of whose `%<number>` placeholders are in range, with `%%` ↦ `%`,
`%...` ↦ the parameters joined by ", ".  The regex `%(%|([0-9]+)|(\.\.\.))` is modelled by a
left-to-right scanner.  The index into `parameters` carries its bounds proof: that the function
type-checks IS the absence of the out-of-bounds / underflow panic.
-/
namespace Selene.Std

def digitsToNat (ds : List Char) : Nat := ds.foldl (fun acc c => acc * 10 + (c.toNat - '0'.toNat)) 0

/-- longest prefix of ASCII digits -/
def takeDigits : List Char → List Char × List Char
  | [] => ([], [])
  | c :: rest => if c.isDigit then let (d, r) := takeDigits rest; (c :: d, r) else ([], c :: rest)

theorem takeDigits_length (l : List Char) : (takeDigits l).2.length ≤ l.length := by
  fun_induction takeDigits l with
  | case1 => exact Nat.le_refl 0
  | case2 c rest _ d r heq ih => rw [heq] at ih; exact Nat.le_succ_of_le ih
  | case3 => exact Nat.le_refl _

/-- expand one format; `none` = the format does not apply (`success = false`).  Every call consumes a character,
    so the fuel `length + 1` of `tryInstead` does not run out; no theorem states this. -/
def expand (params : Array String) : (fuel : Nat) → List Char → Option (List Char)
  | 0, _ => some []
  | _, [] => some []
  | fuel + 1, c :: rest =>
    if c = '%' then
      match rest with
      | '%' :: r => (expand params fuel r).map fun t => '%' :: t
      | '.' :: '.' :: '.' :: r => (expand params fuel r).map fun t => (", ".intercalate params.toList).toList ++ t
      | d :: r =>
        if d.isDigit then
          let (ds, after) := takeDigits (d :: r)
          let n := digitsToNat ds
          -- `parse::<u32>()` fails on overflow; `number > len || number == 0` rejects the format
          if h : n < 4294967296 ∧ 0 < n ∧ n ≤ params.size then
            (expand params fuel after).map fun t => (params[n - 1]'(by omega)).toList ++ t
          else none
        else (expand params fuel (d :: r)).map fun t => '%' :: t      -- a lone `%`: not a placeholder
      | [] => some ['%']
    else (expand params fuel rest).map fun t => c :: t

/-- `try_instead`: the first format that applies -/
def tryInstead (formats : List String) (params : Array String) : Option String :=
  match formats.findSome? (fun f => expand params (f.length + 1) f.toList) with
  | some cs => some (String.ofList cs)
  | none => none

end Selene.Std
