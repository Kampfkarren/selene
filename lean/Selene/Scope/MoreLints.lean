/-
Two more lints that read nothing but the scope tables:
`global_usage.rs` (uses of `_G` — and `shared` under a Roblox library — that are not bound by the script)
and `unscoped_variables.rs` (plain-name assignments that create a global).
Both walk the reference arena once and de-duplicate by identifier with a threaded set — differently:
`global_usage` marks every identifier it has looked at, `unscoped_variables` only those it reported.
-/
import Selene.Scope.Lints
namespace Selene.Scope
open Selene.Lua

/-- `is_global` -/
def isGlobalName (name : String) (roblox : Bool) : Bool := (roblox && name = "shared") || name = "_G"

/-- does the configured pattern match the first static index of the reference (`_G.name`)? -/
def matchesIgnoredIndex (ignore : Option (String → Bool)) (r : Ref) : Bool :=
  match ignore with
  | none => false
  | some p =>
    match r.indexing.bind List.head? with
    | some e => match e.staticName with
      | some n => p n
      | none => false
    | none => false

/-- `pass` of global_usage.rs (38–81); `acc.1` is its `checked` set -/
def globalUsage (roblox : Bool) (ignore : Option (String → Bool)) (σ : St) : List Diag :=
  let step := fun (acc : List Nat × List Diag) (r : Ref) =>
    if acc.1.contains r.ident then acc
    else
      let checked := r.ident :: acc.1
      if isGlobalName r.name roblox && !matchesIgnoredIndex ignore r && r.resolved.isNone then
        (checked, acc.2 ++ [{ code := "global_usage", primary := ⟨r.ident, r.ident⟩, detail := r.name }])
      else (checked, acc.2)
  (σ.refs.toList.foldl step ([], [])).2

/-- `pass` of unscoped_variables.rs (41–68); `acc.1` is its `read` set -/
def unscopedVariables (ignore : String → Bool) (hasFields : String → Bool) (σ : St) : List Diag :=
  let step := fun (acc : List Nat × List Diag) (r : Ref) =>
    if r.resolved.isNone && r.write == some .assign && !acc.1.contains r.ident && !ignore r.name && !hasFields r.name then
      (r.ident :: acc.1, acc.2 ++ [{ code := "unscoped_variables", primary := ⟨r.ident, r.ident⟩, detail := r.name }])
    else acc
  (σ.refs.toList.foldl step ([], [])).2

theorem mem_snd_foldl {α β γ : Type} {step : β × List γ → α → β × List γ} {P : γ → Prop} {l : List α}
    (hstep : ∀ acc, ∀ a ∈ l, ∀ g ∈ (step acc a).2, g ∈ acc.2 ∨ P g) {acc : β × List γ} (hacc : ∀ g ∈ acc.2, P g) :
    ∀ g ∈ (l.foldl step acc).2, P g :=
  List.foldlRecOn (motive := fun acc => ∀ g ∈ acc.2, P g) l step hacc fun acc ih a ha g hg =>
    (hstep acc a ha g hg).elim (ih g) id

/-- **unscoped_variables, soundness over the tables.** Every diagnostic points at the identifier of a
reference that is unresolved, is a plain assignment (`x = …`, not `x.y = …`), whose name the ignore pattern
does not match and the library does not supply. -/
theorem unscoped_sound (ignore hasFields : String → Bool) (σ : St) (g : Diag)
    (h : g ∈ unscopedVariables ignore hasFields σ) :
    ∃ r ∈ σ.refs.toList, r.resolved = none ∧ r.write = some .assign ∧ ignore r.name = false ∧ hasFields r.name = false ∧
      g.primary = ⟨r.ident, r.ident⟩ ∧ g.detail = r.name := by
  revert g
  unfold unscopedVariables
  refine mem_snd_foldl (fun acc r hr g hg => ?_) (List.forall_mem_nil _)
  split at hg
  · rename_i hc
    refine (List.mem_append.mp hg).imp_right fun hg => ?_
    obtain rfl := List.mem_singleton.mp hg
    simp only [Bool.and_eq_true, Bool.not_eq_true', Option.isNone_iff_eq_none, beq_iff_eq] at hc
    obtain ⟨⟨⟨⟨hres, hwrite⟩, -⟩, hign⟩, hlib⟩ := hc
    exact ⟨r, hr, hres, hwrite, hign, hlib, rfl, rfl⟩
  · exact Or.inl hg

/-- **global_usage, soundness over the tables.** Every diagnostic points at the identifier of an unresolved
reference named `_G` (or `shared` under Roblox) whose first static index the configured pattern does not match:
a `_G` the script itself binds is never reported. -/
theorem globalUsage_sound (roblox : Bool) (ignore : Option (String → Bool)) (σ : St) (g : Diag)
    (h : g ∈ globalUsage roblox ignore σ) :
    ∃ r ∈ σ.refs.toList, isGlobalName r.name roblox = true ∧ matchesIgnoredIndex ignore r = false ∧ r.resolved = none ∧
      g.primary = ⟨r.ident, r.ident⟩ := by
  revert g
  unfold globalUsage
  refine mem_snd_foldl (fun acc r hr g hg => ?_) (List.forall_mem_nil _)
  split at hg
  · exact Or.inl hg
  · split at hg
    · rename_i hc
      refine (List.mem_append.mp hg).imp_right fun hg => ?_
      obtain rfl := List.mem_singleton.mp hg
      simp only [Bool.and_eq_true, Bool.not_eq_true', Option.isNone_iff_eq_none] at hc
      obtain ⟨⟨hname, hign⟩, hres⟩ := hc
      exact ⟨r, hr, hname, hign, hres, rfl⟩
    · exact Or.inl hg
end Selene.Scope
