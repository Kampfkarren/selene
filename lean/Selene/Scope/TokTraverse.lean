/-
The reference tokens of every syntactic form in the order the machine reaches them (`et*`: eager reads, `rt*` / `tt*`:
an `until` condition, `dt*`: the descent); each traversal extends the log over exactly those tokens (`Ext`).  A case is
the clause of the machine's definition read as a composition of steps and checked by unfolding, which stops at a `match`
on a variable inside a clause: such a clause is first rewritten over a named step (`eagerF`, `descF`, `lastStep`,
`targetStep`) by an equation proved by cases.
-/
import Selene.Scope.TokLog
namespace Selene.Scope.Core
open Selene.Lua

mutual
def etE : Expr → List Nat
  | .paren _ e => etE e
  | .un _ _ e => etE e
  | .bin _ l _ r => etE l ++ etE r
  | .func _ _ _ => []
  | .call c => etC c
  | .tbl _ fs => etFields fs
  | .dots t => [t.idx]
  | .var v => etV v
  | .nil _ => []
  | .true_ _ => []
  | .false_ _ => []
  | .num _ => []
  | .str _ _ _ => []
  | .unsupported _ => []
def etEs : ExprList → List Nat
  | .nil => []
  | .cons e rest => etE e ++ etEs rest
def etC : FCall → List Nat
  | .mk _ p ss => etP p ++ etSs ss
def etP : Prefix → List Nat
  | .name t => [t.idx]
  | .expr e => etE e
def etSs : SuffixList → List Nat
  | .nil => []
  | .cons s rest => etS s ++ etSs rest
def etS : Suffix → List Nat
  | .dot _ _ => []
  | .idx _ e => etE e
  | .args _ a => etA a
  | .meth _ _ a => etA a
  | .unsupported _ => []
def etA : Args → List Nat
  | .parens _ es => etEs es
  | .tbl _ fs => etFields fs
  | .str _ _ _ => []
def etF : Field → List Nat
  | .exprKey _ k v => etE k ++ etE v
  | .nameKey _ _ v => etE v
  | .noKey v => etE v
  | .unsupported _ => []
def etFields : FieldList → List Nat
  | .nil => []
  | .cons f rest => etF f ++ etFields rest
def etV : Var → List Nat
  | .name t => [t.idx]
  | .expr _ p ss => etP p ++ etSs ss
end

/-- the inlined `match f with …` of `eagerFields` -/
def eagerF (σ : St) : Field → St
  | .exprKey _ k v => eagerE (eagerE σ k) v
  | .nameKey _ _ v => eagerE σ v
  | .noKey v => eagerE σ v
  | .unsupported _ => σ

theorem eagerFields_cons (σ : St) (f : Field) (rest : FieldList) :
    eagerFields σ (.cons f rest) = eagerFields (eagerF σ f) rest := by
  cases f <;> rfl

mutual
theorem eagerE_ext : (e : Expr) → (σ : St) → (etE e).Nodup → Ext (etE e) σ (eagerE σ e)
  | .paren _ e => eagerE_ext e
  | .un _ _ e => eagerE_ext e
  | .bin _ l _ r => Ext.comp (eagerE_ext l) (eagerE_ext r)
  | .func _ _ _ => Ext.skip
  | .call c => eagerC_ext c
  | .tbl _ fs => eagerFields_ext fs
  | .dots t => fun σ _ => read_ext σ t true false
  | .var v => eagerV_ext v
  | .nil _ => Ext.skip
  | .true_ _ => Ext.skip
  | .false_ _ => Ext.skip
  | .num _ => Ext.skip
  | .str _ _ _ => Ext.skip
  | .unsupported _ => Ext.skip
theorem eagerEs_ext : (es : ExprList) → (σ : St) → (etEs es).Nodup → Ext (etEs es) σ (eagerEs σ es)
  | .nil => Ext.skip
  | .cons e rest => Ext.comp (eagerE_ext e) (eagerEs_ext rest)
theorem eagerC_ext : (c : FCall) → (σ : St) → (etC c).Nodup → Ext (etC c) σ (eagerC σ c)
  | .mk _ p ss => Ext.comp (eagerP_ext p) (eagerSs_ext ss)
theorem eagerP_ext : (p : Prefix) → (σ : St) → (etP p).Nodup → Ext (etP p) σ (eagerP σ p)
  | .name t => fun σ _ => read_ext σ t true false
  | .expr e => eagerE_ext e
theorem eagerSs_ext : (ss : SuffixList) → (σ : St) → (etSs ss).Nodup → Ext (etSs ss) σ (eagerSs σ ss)
  | .nil => Ext.skip
  | .cons s rest => Ext.comp (eagerS_ext s) (eagerSs_ext rest)
theorem eagerS_ext : (s : Suffix) → (σ : St) → (etS s).Nodup → Ext (etS s) σ (eagerS σ s)
  | .dot _ _ => Ext.skip
  | .idx _ e => eagerE_ext e
  | .args _ a => eagerA_ext a
  | .meth _ _ a => eagerA_ext a
  | .unsupported _ => Ext.skip
theorem eagerA_ext : (a : Args) → (σ : St) → (etA a).Nodup → Ext (etA a) σ (eagerA σ a)
  | .parens _ es => eagerEs_ext es
  | .tbl _ fs => eagerFields_ext fs
  | .str _ _ _ => Ext.skip
theorem eagerF_ext : (f : Field) → (σ : St) → (etF f).Nodup → Ext (etF f) σ (eagerF σ f)
  | .exprKey _ k v => Ext.comp (eagerE_ext k) (eagerE_ext v)
  | .nameKey _ _ v => eagerE_ext v
  | .noKey v => eagerE_ext v
  | .unsupported _ => Ext.skip
theorem eagerFields_ext : (fs : FieldList) → (σ : St) → (etFields fs).Nodup → Ext (etFields fs) σ (eagerFields σ fs)
  | .nil => Ext.skip
  | .cons f rest => fun σ h => by
    rw [eagerFields_cons]
    exact Ext.comp (eagerF_ext f) (eagerFields_ext rest) σ h
theorem eagerV_ext : (v : Var) → (σ : St) → (etV v).Nodup → Ext (etV v) σ (eagerV σ v)
  | .name t => fun σ _ => read_ext σ t true false
  | .expr _ p ss => Ext.comp (eagerP_ext p) (eagerSs_ext ss)
end

theorem eagerPT_ext : (p : Prefix) → (σ : St) → (etP p).Nodup → Ext (etP p) σ (eagerPT σ p)
  | .name t => fun σ _ => read_ext σ t true true
  | .expr e => eagerE_ext e

theorem eagerVT_ext : (v : Var) → (σ : St) → (etV v).Nodup → Ext (etV v) σ (eagerVT σ v)
  | .name t => fun σ _ => read_ext σ t true true
  | .expr _ p ss => Ext.comp (eagerPT_ext p) (eagerSs_ext ss)

/-! ### what is read of an `until` condition after it has been walked -/
mutual
def rtE : Expr → List Nat
  | .paren _ e => rtE e
  | .un _ _ e => rtE e
  | .bin _ l _ r => rtE l ++ rtE r
  | .func _ _ _ => []
  | .call _ => []
  | .tbl _ fs => rtFs fs
  | .dots t => [t.idx]
  | .var (.name t) => [t.idx]
  | .var (.expr _ p _) => rtP p
  | .nil _ => []
  | .true_ _ => []
  | .false_ _ => []
  | .num _ => []
  | .str _ _ _ => []
  | .unsupported _ => []
def rtP : Prefix → List Nat
  | .name t => [t.idx]
  | .expr e => rtE e
def rtF : Field → List Nat
  | .exprKey _ k v => rtE k ++ rtE v
  | .nameKey _ _ v => rtE v
  | .noKey v => rtE v
  | .unsupported _ => []
def rtFs : FieldList → List Nat
  | .nil => []
  | .cons f rest => rtF f ++ rtFs rest
end

mutual
theorem restE_ext : (e : Expr) → (σ : St) → (rtE e).Nodup → Ext (rtE e) σ (restE σ e)
  | .paren _ e => restE_ext e
  | .un _ _ e => restE_ext e
  | .bin _ l _ r => Ext.comp (restE_ext l) (restE_ext r)
  | .func _ _ _ => Ext.skip
  | .call _ => Ext.skip
  | .tbl _ fs => restFields_ext fs
  | .dots t => fun σ _ => read_ext σ t true false
  | .var (.name t) => fun σ _ => read_ext σ t true false
  | .var (.expr _ p _) => restP_ext p
  | .nil _ => Ext.skip
  | .true_ _ => Ext.skip
  | .false_ _ => Ext.skip
  | .num _ => Ext.skip
  | .str _ _ _ => Ext.skip
  | .unsupported _ => Ext.skip
theorem restP_ext : (p : Prefix) → (σ : St) → (rtP p).Nodup → Ext (rtP p) σ (restP σ p)
  | .name t => fun σ _ => read_ext σ t true false
  | .expr e => restE_ext e
theorem restF_ext : (f : Field) → (σ : St) → (rtF f).Nodup → Ext (rtF f) σ (restF σ f)
  | .exprKey _ k v => Ext.comp (restE_ext k) (restE_ext v)
  | .nameKey _ _ v => restE_ext v
  | .noKey v => restE_ext v
  | .unsupported _ => Ext.skip
theorem restFields_ext : (fs : FieldList) → (σ : St) → (rtFs fs).Nodup → Ext (rtFs fs) σ (restFields σ fs)
  | .nil => Ext.skip
  | .cons f rest => Ext.comp (restF_ext f) (restFields_ext rest)
end

def targetToks : Var → List Nat
  | .name n => [n.idx]
  | .expr sp p ss => etV (.expr sp p ss)

def optE (f : Expr → List Nat) : OptExpr → List Nat
  | .some e => f e
  | .none => []

mutual
def dtE : Expr → List Nat
  | .paren _ e => dtE e
  | .un _ _ e => dtE e
  | .bin _ l _ r => dtE l ++ dtE r
  | .func _ _ body => dtBody body
  | .call c => dtC c
  | .tbl _ fs => dtFields fs
  | .var v => dtV v
  | .dots _ => []
  | .nil _ => []
  | .true_ _ => []
  | .false_ _ => []
  | .num _ => []
  | .str _ _ _ => []
  | .unsupported _ => []
def dtEs : ExprList → List Nat
  | .nil => []
  | .cons e rest => dtE e ++ dtEs rest
def dtC : FCall → List Nat
  | .mk _ p ss => dtP p ++ dtSs ss
def dtP : Prefix → List Nat
  | .name _ => []
  | .expr e => dtE e
def dtSs : SuffixList → List Nat
  | .nil => []
  | .cons s rest => dtS s ++ dtSs rest
def dtS : Suffix → List Nat
  | .dot _ _ => []
  | .idx _ e => dtE e
  | .args _ a => dtA a
  | .meth _ _ a => dtA a
  | .unsupported _ => []
def dtA : Args → List Nat
  | .parens _ es => dtEs es
  | .tbl _ fs => dtFields fs
  | .str _ _ _ => []
def dtF : Field → List Nat
  | .exprKey _ k v => dtE k ++ dtE v
  | .nameKey _ _ v => dtE v
  | .noKey v => dtE v
  | .unsupported _ => []
def dtFields : FieldList → List Nat
  | .nil => []
  | .cons f rest => dtF f ++ dtFields rest
def dtV : Var → List Nat
  | .name _ => []
  | .expr _ p ss => dtP p ++ dtSs ss
def dtVs : VarList → List Nat
  | .nil => []
  | .cons v rest => dtV v ++ dtVs rest
/-- the walk of an `until` condition -/
def ttE : Expr → List Nat
  | .paren _ e => ttE e
  | .un _ _ e => ttE e
  | .bin _ l _ r => ttE l ++ ttE r
  | .func _ _ body => dtBody body
  | .call (.mk _ p ss) => etP p ++ (dtP p ++ stSs ss)
  | .tbl _ fs => ttFs fs
  | .var (.name _) => []
  | .var (.expr _ p ss) => ttP p ++ stSs ss
  | .nil _ => []
  | .true_ _ => []
  | .false_ _ => []
  | .dots _ => []
  | .num _ => []
  | .str _ _ _ => []
  | .unsupported _ => []
def ttP : Prefix → List Nat
  | .name _ => []
  | .expr e => ttE e
def ttF : Field → List Nat
  | .exprKey _ k v => ttE k ++ ttE v
  | .nameKey _ _ v => ttE v
  | .noKey v => ttE v
  | .unsupported _ => []
def ttFs : FieldList → List Nat
  | .nil => []
  | .cons f rest => ttF f ++ ttFs rest
/-- a call statement's suffixes: each is read, then entered -/
def stSs : SuffixList → List Nat
  | .nil => []
  | .cons s rest => (etS s ++ dtS s) ++ stSs rest
def dtBody : FuncBody → List Nat
  | .mk _ _ b => dtBlock b
def dtLast : LastStmt → List Nat
  | .ret _ es => etEs es ++ dtEs es
  | .none => []
  | .brk _ => []
def dtBlock : Block → List Nat
  | .mk _ stmts last => dtStmts stmts ++ dtLast last
def dtStmts : StmtList → List Nat
  | .nil => []
  | .cons s rest => dtStmt s ++ dtStmts rest
def dtElseifs : ElseIfList → List Nat
  | .nil => []
  | .cons (.mk _ c b) rest => (etE c ++ (dtE c ++ dtBlock b)) ++ dtElseifs rest
def dtOE : OptExpr → List Nat
  | .some e => dtE e
  | .none => []
def dtOptBlock : OptBlock → List Nat
  | .some b => dtBlock b
  | .none => []
def dtStmt : Stmt → List Nat
  | .assign _ vars es => atT vars es ++ (dtVs vars ++ dtEs es)
  | .localAssign _ _ es => etEs es ++ dtEs es
  | .call (.mk _ p ss) => etP p ++ (dtP p ++ stSs ss)
  | .do_ _ b => dtBlock b
  | .while_ _ c b => etE c ++ (dtE c ++ dtBlock b)
  | .repeat_ _ b c => dtBlock b ++ (ttE c ++ rtE c)
  | .if_ _ c b elifs els => etE c ++ (dtE c ++ (dtBlock b ++ (dtElseifs elifs ++ dtOptBlock els)))
  | .numFor _ _ _ start stop step b =>
    (etE start ++ (etE stop ++ optE etE step)) ++ ((dtE start ++ (dtE stop ++ dtOE step)) ++ dtBlock b)
  | .genFor _ _ es b => etEs es ++ (dtEs es ++ dtBlock b)
  | .func _ name body =>
    match name.names with
    | [] => []
    | base :: _ => [base.idx] ++ dtBody body
  | .localFunc _ _ body => dtBody body
  | .unsupported _ => []
/-- `assignTargets`: per target its paired expression, then the target -/
def atT : VarList → ExprList → List Nat
  | .nil, es => etEs es
  | .cons v rest, es =>
    (match es with | .cons e _ => etE e | .nil => []) ++
    (targetToks v ++
     atT rest (match es with | .cons _ es' => es' | .nil => .nil))
end

theorem local_ext (σ : St) (t : Tok) : Ext [] σ (σ.local_ t) := declare_ext σ t t.text

theorem defineAll_ext : (ts : List Tok) → (σ : St) → Ext [] σ (defineAll σ ts)
  | [], σ => Ext.refl _ σ
  | t :: rest, σ => (local_ext σ t).nil_then (defineAll_ext rest _)

theorem defineParams_ext : (ps : List Param) → (σ : St) → Ext [] σ (defineParams σ ps)
  | [], σ => Ext.refl _ σ
  | .name t :: rest, σ => (local_ext σ t).nil_then (defineParams_ext rest _)
  | .dots _ :: rest, σ => (Ext.of_eq (tokLog_define σ _)).nil_then (defineParams_ext rest _)

def descF (σ : St) : Field → St
  | .exprKey _ k v => descE (descE σ k) v
  | .nameKey _ _ v => descE σ v
  | .noKey v => descE σ v
  | .unsupported _ => σ

theorem descFields_cons (σ : St) (f : Field) (rest : FieldList) :
    descFields σ (.cons f rest) = descFields (descF σ f) rest := by
  cases f <;> rfl

def lastStep (σ : St) : LastStmt → St
  | .ret _ es => descEs (eagerEs σ es) es
  | .none => σ
  | .brk _ => σ

theorem block_eq (σ : St) (sp : Option Span) (stmts : StmtList) (last : LastStmt) :
    block σ (.mk sp stmts last) = lastStep (stmts_ σ stmts) last := by
  cases last <;> rfl

theorem body_eq (σ : St) (sp : Span) (params : List Param) (b : Block) :
    body_ σ (.mk sp params b) =
      let σ₁ : St := { σ.open with fdepth := σ.fdepth + 1 }
      let σ₂ := defineParams (σ₁.define { name := "...", info := none }) params
      let σ₃ := (block σ₂ b).close
      { σ₃ with fdepth := σ₃.fdepth - 1 } := rfl

theorem if_eq (σ : St) (sp : Span) (c : Expr) (b : Block) (elifs : ElseIfList) (els : OptBlock) :
    stmt σ (.if_ sp c b elifs els) =
      (match els with
       | .some eb => (block (elseifs (block (descE (eagerE σ c).open c) b) elifs).close.open eb).close
       | .none => (elseifs (block (descE (eagerE σ c).open c) b) elifs).close) := by
  cases els <;> rfl

theorem elseifs_cons (σ : St) (sp : Span) (c : Expr) (b : Block) (rest : ElseIfList) :
    elseifs σ (.cons (.mk sp c b) rest) = elseifs (block (descE (eagerE σ.close c).open c) b) rest := rfl

/-- one target of `assignTargets` -/
def targetStep (σ : St) : Var → St
  | .name n => σ.hoist n
  | .expr sp p ss => eagerVT σ (.expr sp p ss)

theorem assignTargets_cons_cons (σ : St) (v : Var) (rest : VarList) (e : Expr) (es : ExprList) :
    assignTargets σ (.cons v rest) (.cons e es) = assignTargets (targetStep (eagerE σ e) v) rest es := by
  cases v <;> rfl

theorem assignTargets_cons_nil (σ : St) (v : Var) (rest : VarList) :
    assignTargets σ (.cons v rest) .nil = assignTargets (targetStep σ v) rest .nil := by
  cases v <;> rfl

theorem targetStep_ext : (v : Var) → (σ : St) → (targetToks v).Nodup → Ext (targetToks v) σ (targetStep σ v)
  | .name n => fun σ _ => hoist_ext σ n
  | .expr sp p ss => eagerVT_ext (.expr sp p ss)

theorem funcName_ext (longer : Bool) (base : Tok) (σ : St) (_ : [base.idx].Nodup) :
    Ext [base.idx] σ (if longer then σ.read base true true else (σ.read base false).hoist base) := by
  split
  · exact read_ext σ base true true
  · exact readHoist_ext σ base

mutual
theorem descE_ext : (e : Expr) → (σ : St) → (dtE e).Nodup → Ext (dtE e) σ (descE σ e)
  | .paren _ e => descE_ext e
  | .un _ _ e => descE_ext e
  | .bin _ l _ r => Ext.comp (descE_ext l) (descE_ext r)
  | .func _ _ body => body_ext body
  | .call c => descC_ext c
  | .tbl _ fs => descFields_ext fs
  | .var v => descV_ext v
  | .dots _ => Ext.skip
  | .nil _ => Ext.skip
  | .true_ _ => Ext.skip
  | .false_ _ => Ext.skip
  | .num _ => Ext.skip
  | .str _ _ _ => Ext.skip
  | .unsupported _ => Ext.skip
theorem descEs_ext : (es : ExprList) → (σ : St) → (dtEs es).Nodup → Ext (dtEs es) σ (descEs σ es)
  | .nil => Ext.skip
  | .cons e rest => Ext.comp (descE_ext e) (descEs_ext rest)
theorem descC_ext : (c : FCall) → (σ : St) → (dtC c).Nodup → Ext (dtC c) σ (descC σ c)
  | .mk _ p ss => Ext.comp (descP_ext p) (descSs_ext ss)
theorem descP_ext : (p : Prefix) → (σ : St) → (dtP p).Nodup → Ext (dtP p) σ (descP σ p)
  | .name _ => Ext.skip
  | .expr e => descE_ext e
theorem descSs_ext : (ss : SuffixList) → (σ : St) → (dtSs ss).Nodup → Ext (dtSs ss) σ (descSs σ ss)
  | .nil => Ext.skip
  | .cons s rest => Ext.comp (descS_ext s) (descSs_ext rest)
theorem descS_ext : (s : Suffix) → (σ : St) → (dtS s).Nodup → Ext (dtS s) σ (descS σ s)
  | .dot _ _ => Ext.skip
  | .idx _ e => descE_ext e
  | .args _ a => descA_ext a
  | .meth _ _ a => descA_ext a
  | .unsupported _ => Ext.skip
theorem descA_ext : (a : Args) → (σ : St) → (dtA a).Nodup → Ext (dtA a) σ (descA σ a)
  | .parens _ es => descEs_ext es
  | .tbl _ fs => descFields_ext fs
  | .str _ _ _ => Ext.skip
theorem descF_ext : (f : Field) → (σ : St) → (dtF f).Nodup → Ext (dtF f) σ (descF σ f)
  | .exprKey _ k v => Ext.comp (descE_ext k) (descE_ext v)
  | .nameKey _ _ v => descE_ext v
  | .noKey v => descE_ext v
  | .unsupported _ => Ext.skip
theorem descFields_ext : (fs : FieldList) → (σ : St) → (dtFields fs).Nodup → Ext (dtFields fs) σ (descFields σ fs)
  | .nil => Ext.skip
  | .cons f rest => fun σ h => by
    rw [descFields_cons]
    exact Ext.comp (descF_ext f) (descFields_ext rest) σ h
theorem descV_ext : (v : Var) → (σ : St) → (dtV v).Nodup → Ext (dtV v) σ (descV σ v)
  | .name _ => Ext.skip
  | .expr _ p ss => Ext.comp (descP_ext p) (descSs_ext ss)
theorem descVs_ext : (vs : VarList) → (σ : St) → (dtVs vs).Nodup → Ext (dtVs vs) σ (descVs σ vs)
  | .nil => Ext.skip
  | .cons v rest => Ext.comp (descV_ext v) (descVs_ext rest)
theorem stmtSs_ext : (ss : SuffixList) → (σ : St) → (stSs ss).Nodup → Ext (stSs ss) σ (stmtSs σ ss)
  | .nil => Ext.skip
  | .cons s rest => Ext.comp (Ext.comp (eagerS_ext s) (descS_ext s)) (stmtSs_ext rest)
theorem topE_ext : (e : Expr) → (σ : St) → (ttE e).Nodup → Ext (ttE e) σ (topE σ e)
  | .paren _ e => topE_ext e
  | .un _ _ e => topE_ext e
  | .bin _ l _ r => Ext.comp (topE_ext l) (topE_ext r)
  | .func _ _ body => body_ext body
  | .call (.mk _ p ss) => Ext.comp (eagerP_ext p) (Ext.comp (descP_ext p) (stmtSs_ext ss))
  | .tbl _ fs => topFields_ext fs
  | .var (.name _) => Ext.skip
  | .var (.expr _ p ss) => Ext.comp (topP_ext p) (stmtSs_ext ss)
  | .nil _ => Ext.skip
  | .true_ _ => Ext.skip
  | .false_ _ => Ext.skip
  | .dots _ => Ext.skip
  | .num _ => Ext.skip
  | .str _ _ _ => Ext.skip
  | .unsupported _ => Ext.skip
theorem topP_ext : (p : Prefix) → (σ : St) → (ttP p).Nodup → Ext (ttP p) σ (topP σ p)
  | .name _ => Ext.skip
  | .expr e => topE_ext e
theorem topF_ext : (f : Field) → (σ : St) → (ttF f).Nodup → Ext (ttF f) σ (topF σ f)
  | .exprKey _ k v => Ext.comp (topE_ext k) (topE_ext v)
  | .nameKey _ _ v => topE_ext v
  | .noKey v => topE_ext v
  | .unsupported _ => Ext.skip
theorem topFields_ext : (fs : FieldList) → (σ : St) → (ttFs fs).Nodup → Ext (ttFs fs) σ (topFields σ fs)
  | .nil => Ext.skip
  | .cons f rest => Ext.comp (topF_ext f) (topFields_ext rest)
theorem body_ext : (body : FuncBody) → (σ : St) → (dtBody body).Nodup → Ext (dtBody body) σ (body_ σ body)
  | .mk _ params b => fun σ h =>
    (((Ext.of_eq (tokLog_define { σ.open with fdepth := σ.fdepth + 1 } _)).nil_then (defineParams_ext params _)).nil_then
      (block_ext b _ h)).congr rfl rfl
theorem lastStep_ext : (last : LastStmt) → (σ : St) → (dtLast last).Nodup → Ext (dtLast last) σ (lastStep σ last)
  | .ret _ es => Ext.comp (eagerEs_ext es) (descEs_ext es)
  | .none => Ext.skip
  | .brk _ => Ext.skip
theorem block_ext : (b : Block) → (σ : St) → (dtBlock b).Nodup → Ext (dtBlock b) σ (block σ b)
  | .mk sp stmts last => fun σ h => by
    rw [block_eq]
    exact Ext.comp (stmts_ext stmts) (lastStep_ext last) σ h
theorem stmts_ext : (ss : StmtList) → (σ : St) → (dtStmts ss).Nodup → Ext (dtStmts ss) σ (stmts_ σ ss)
  | .nil => Ext.skip
  | .cons s rest => Ext.comp (stmt_ext s) (stmts_ext rest)
theorem assignTargets_ext : (vs : VarList) → (es : ExprList) → (σ : St) → (atT vs es).Nodup →
    Ext (atT vs es) σ (assignTargets σ vs es)
  | .nil, es => eagerEs_ext es
  | .cons v rest, .cons e es => fun σ h => by
    rw [assignTargets_cons_cons]
    exact Ext.comp (eagerE_ext e) (Ext.comp (targetStep_ext v) (assignTargets_ext rest es)) σ h
  | .cons v rest, .nil => fun σ h => by
    rw [assignTargets_cons_nil]
    exact Ext.comp (targetStep_ext v) (assignTargets_ext rest .nil) σ h
theorem elseifs_ext : (es : ElseIfList) → (σ : St) → (dtElseifs es).Nodup → Ext (dtElseifs es) σ (elseifs σ es)
  | .nil => Ext.skip
  | .cons (.mk _ c b) rest =>
    Ext.comp (Ext.nil_comp close_ext (Ext.comp (eagerE_ext c) (Ext.nil_comp open_ext (Ext.comp (descE_ext c) (block_ext b)))))
      (elseifs_ext rest)
theorem stmt_ext : (s : Stmt) → (σ : St) → (dtStmt s).Nodup → Ext (dtStmt s) σ (stmt σ s)
  | .assign _ vars es => Ext.comp (assignTargets_ext vars es) (Ext.comp (descVs_ext vars) (descEs_ext es))
  | .localAssign _ names es => Ext.comp (eagerEs_ext es) (Ext.comp_nil (descEs_ext es) (defineAll_ext names))
  | .call (.mk _ p ss) => Ext.comp (eagerP_ext p) (Ext.comp (descP_ext p) (stmtSs_ext ss))
  | .do_ _ b => Ext.closed (Ext.nil_comp open_ext (block_ext b))
  | .while_ _ c b =>
    Ext.closed (Ext.comp (eagerE_ext c) (Ext.nil_comp open_ext (Ext.comp (descE_ext c) (block_ext b))))
  | .repeat_ _ b c =>
    Ext.closed (Ext.nil_comp open_ext (Ext.comp (block_ext b) (Ext.comp (topE_ext c) (restE_ext c))))
  | .if_ _ c b elifs (.some eb) =>
    Ext.closed (Ext.comp (eagerE_ext c) (Ext.nil_comp open_ext (Ext.comp (descE_ext c) (Ext.comp (block_ext b)
      (Ext.comp (elseifs_ext elifs) (Ext.nil_comp close_ext (Ext.nil_comp open_ext (block_ext eb))))))))
  | .if_ _ c b elifs .none =>
    Ext.closed (Ext.comp (eagerE_ext c) (Ext.nil_comp open_ext (Ext.comp (descE_ext c) (Ext.comp (block_ext b)
      (Ext.comp (elseifs_ext elifs) Ext.skip)))))
  | .numFor _ v _ start stop (.some e) b =>
    Ext.closed (Ext.closed (Ext.comp (Ext.comp (eagerE_ext start) (Ext.comp (eagerE_ext stop) (eagerE_ext e)))
      (Ext.comp (Ext.nil_comp open_ext (Ext.comp (descE_ext start) (Ext.comp (descE_ext stop) (descE_ext e))))
        (Ext.nil_comp (fun σ => (local_ext σ v).nil_then (open_ext _)) (block_ext b)))))
  | .numFor _ v _ start stop .none b =>
    Ext.closed (Ext.closed (Ext.comp (Ext.comp (eagerE_ext start) (Ext.comp (eagerE_ext stop) Ext.skip))
      (Ext.comp (Ext.nil_comp open_ext (Ext.comp (descE_ext start) (Ext.comp (descE_ext stop) Ext.skip)))
        (Ext.nil_comp (fun σ => (local_ext σ v).nil_then (open_ext _)) (block_ext b)))))
  | .genFor _ names es b =>
    Ext.closed (Ext.comp (eagerEs_ext es) (Ext.nil_comp open_ext
      (Ext.comp (Ext.comp_nil (descEs_ext es) (defineAll_ext names)) (block_ext b))))
  | .func _ ⟨_, [], _⟩ _ => Ext.skip
  | .func _ ⟨_, base :: _, some m⟩ body =>
    Ext.closed (Ext.comp (funcName_ext _ base)
      (Ext.nil_comp (fun σ => (open_ext σ).nil_then (declare_ext _ m "self")) (body_ext body)))
  | .func _ ⟨_, base :: _, none⟩ body => Ext.comp (funcName_ext _ base) (body_ext body)
  | .localFunc _ name body =>
    Ext.closed (Ext.nil_comp (fun σ => (local_ext σ name).nil_then (open_ext _)) (body_ext body))
  | .unsupported _ => Ext.skip
end

end Selene.Scope.Core
