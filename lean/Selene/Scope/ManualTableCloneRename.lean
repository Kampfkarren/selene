/-
The syntactic half of `manual_table_clone` under a consistent renaming of identifiers: which loops have the shape
the lint looks for depends on three spellings only — `pairs`, `ipairs`, `next`.  A renaming that is injective and
leaves those three alone maps shaped loops to shaped loops and nothing else to one.
-/
import Selene.Scope.ManualTableClone
import Selene.Lua.RenameLemmas
namespace Selene.Scope.ManualTableClone
open Selene.Lua

/-- a renaming the property speaks about: consistent (injective) and away from the names the lint treats specially -/
structure Respectful (ρ : String → String) : Prop where
  inj : ∀ a b, ρ a = ρ b → a = b
  pairs : ρ "pairs" = "pairs"
  ipairs : ρ "ipairs" = "ipairs"
  next : ρ "next" = "next"

theorem exprToIdent_ren (ρ : String → String) (e : Expr) : exprToIdent (e.ren ρ) = (exprToIdent e).map (Tok.ren ρ) := by
  cases e with
  | var v => cases v <;> rfl
  | _ => rfl

theorem stripParens_ren (ρ : String → String) : (e : Expr) → stripParens (e.ren ρ) = (stripParens e).ren ρ
  | .paren _ e => stripParens_ren ρ e
  | .nil _ | .true_ _ | .false_ _ | .dots _ | .num _ | .str _ _ _ | .func _ _ _ | .un _ _ _ | .bin _ _ _ _ | .tbl _ _
  | .var _ | .call _ | .unsupported _ => rfl

theorem fnToken_ren (ρ : String → String) (p : Prefix) : fnToken (p.ren ρ) = (fnToken p).map (Tok.ren ρ) := by
  cases p with
  | name t => rfl
  | expr e => exact exprToIdent_ren ρ e

theorem onlyArgument_ren (ρ : String → String) (ss : SuffixList) : onlyArgument (ss.ren ρ) = (onlyArgument ss).map (Expr.ren ρ) := by
  unfold onlyArgument
  rw [SuffixList.toList_ren]
  match ss.toList with
  | [] => rfl
  | [s] =>
    cases s with
    | args sp a =>
      cases a with
      | parens sp2 args =>
        simp only [List.map_cons, List.map_nil, Suffix.ren_args, Args.ren_parens, ExprList.toList_ren]
        match args.toList with
        | [] | [a] | _ :: _ :: _ => rfl
      | _ => rfl
    | _ => rfl
  | _ :: _ :: _ => simp

theorem loopOfExpr_ren {ρ : String → String} (h : Respectful ρ) (e : Expr) :
    loopOfExpr (e.ren ρ) = (loopOfExpr e).map fun p => (p.1, p.2.ren ρ) := by
  unfold loopOfExpr
  rw [stripParens_ren]
  cases stripParens e with
  | call c =>
    cases c with
    | mk sp p ss =>
      simp only [Expr.ren_call, FCall.ren_mk, fnToken_ren]
      cases fnToken p with
      | none => rfl
      | some ft =>
        simp only [Option.map_some, Tok.ren, ren_eq_fixed h.inj h.ipairs, ren_eq_fixed h.inj h.pairs, onlyArgument_ren]
        split
        · cases onlyArgument ss <;> rfl
        · rfl
  | _ => rfl

/-- **which loops are clone-shaped does not depend on script-chosen spellings** -/
theorem loopExpression_ren {ρ : String → String} (h : Respectful ρ) (es : ExprList) :
    loopExpression (es.ren ρ) = (loopExpression es).map fun p => (p.1, p.2.ren ρ) := by
  unfold loopExpression
  rw [ExprList.toList_ren]
  match es.toList with
  | [] => rfl
  | [e] => exact loopOfExpr_ren h e
  | [first, second] =>
    simp only [List.map_cons, List.map_nil, exprToIdent_ren]
    cases exprToIdent first with
    | none => rfl
    | some t => simp only [Option.map_some, Tok.ren, ren_eq_fixed h.inj h.next, Option.map_if]
  | _ :: _ :: _ :: _ => rfl

theorem text_eq_ren {ρ : String → String} (h : Respectful ρ) (o : Option Tok) (value : String) :
    ((o.map (Tok.ren ρ)).map (·.text) = some (ρ value)) ↔ (o.map (·.text) = some value) := by
  cases o with
  | none => simp
  | some t => exact Option.some_inj.trans <| Iff.trans ⟨h.inj _ _, congrArg ρ⟩ Option.some_inj.symm

theorem indexedBy_ren {ρ : String → String} (h : Respectful ρ) (key : String) (v : Var) :
    indexedBy (ρ key) (v.ren ρ) = (indexedBy key v).map (Tok.ren ρ) := by
  cases v with
  | name t => rfl
  | expr sp p ss =>
    simp only [Var.ren_expr, indexedBy, fnToken_ren, SuffixList.toList_ren]
    cases fnToken p with
    | none => rfl
    | some name =>
      match ss.toList with
      | [] => rfl
      | [s] =>
        cases s with
        | idx sp2 ie =>
          simp only [Option.map_some, List.map_cons, List.map_nil, Suffix.ren_idx, exprToIdent_ren, text_eq_ren h, Option.map_if]
        | _ => rfl
      | _ :: _ :: _ => simp

/-- **… nor does which table the body fills** -/
theorem assigningInto_ren {ρ : String → String} (h : Respectful ρ) (key value : String) (b : Block) :
    assigningInto (ρ key) (ρ value) (b.ren ρ) = (assigningInto key value b).map (Tok.ren ρ) := by
  cases b with
  | mk sp stmts last =>
    simp only [Block.ren_mk, assigningInto, StmtList.toList_ren]
    match stmts.toList with
    | [] => rfl
    | [s] =>
      cases s with
      | assign sp2 vars es =>
        simp only [List.map_cons, List.map_nil, Stmt.ren_assign, VarList.toList_ren, ExprList.toList_ren]
        match vars.toList with
        | [] => rfl
        | [var] =>
          simp only [List.map_cons, List.map_nil, indexedBy_ren h]
          cases indexedBy key var with
          | none => rfl
          | some name =>
            simp only [Option.map_some, List.head?_map]
            cases es.toList.head? with
            | none => rfl
            | some e => simp only [Option.map_some, Option.bind_some, exprToIdent_ren, text_eq_ren h, Option.map_if]
        | _ :: _ :: _ => rfl
      | _ => rfl
    | _ :: _ :: _ => simp

/-- **The syntactic half of the lint commutes with respectful renamings**: the renamed loop has the shape exactly when the
original has, with the same loop type, the renamed loop expression and the renamed table. -/
theorem shape_ren {ρ : String → String} (h : Respectful ρ) (names : List Tok) (es : ExprList) (b : Block) :
    shape (names.map (Tok.ren ρ)) (es.ren ρ) (b.ren ρ) =
      (shape names es b).map fun p => (p.1, p.2.1.ren ρ, p.2.2.ren ρ) := by
  unfold shape
  rw [loopExpression_ren h]
  cases loopExpression es with
  | none => rfl
  | some p =>
    obtain ⟨lt, over⟩ := p
    match names with
    | [] | [_] | _ :: _ :: _ :: _ => rfl
    | [k, v] =>
      simp only [Option.map_some, List.map_cons, List.map_nil, Tok.ren, assigningInto_ren h, Option.map_map]
      cases assigningInto k.text v.text b <;> rfl

end Selene.Scope.ManualTableClone
