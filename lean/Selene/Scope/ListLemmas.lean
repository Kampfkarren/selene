/- List facts shared by `CoreProof`, `SpecProof` and `Safe`: logs grow by one entry at a time and are read
through `filter` / `map` / `filterMap`. -/
namespace Selene.Scope

theorem forall_mem_push {α : Type} {p : α → Prop} {l : List α} {x : α} (h : ∀ a ∈ l, p a) (hx : p x) :
    ∀ a ∈ l ++ [x], p a :=
  List.forall_mem_append.mpr ⟨h, List.forall_mem_singleton.mpr hx⟩

theorem map_filter_push {α β : Type} (l : List α) (x : α) (p : α → Bool) (f : α → β) :
    ((l ++ [x]).filter p).map f = (l.filter p).map f ++ if p x then [f x] else [] := by
  rw [List.filter_append, List.map_append, List.filter_cons]
  cases p x <;> rfl

theorem filterMap_map_filter {α β γ : Type} (p q : α → Bool) (f : α → β) (g : β → Option γ) (h : α → γ)
    (H : ∀ x, (if p x then g (f x) else none) = if q x then some (h x) else none) (l : List α) :
    ((l.filter p).map f).filterMap g = (l.filter q).map h := by
  rw [List.filterMap_map, List.filterMap_filter, ← List.filterMap_eq_map, List.filterMap_filter]
  exact congrArg (List.filterMap · l) (funext H)

theorem filterMap_map_eq_nil {α β γ : Type} (f : α → β) (g : β → Option γ) (H : ∀ x, g (f x) = none) (l : List α) :
    (l.map f).filterMap g = [] := by
  rw [List.filterMap_map]
  exact List.filterMap_eq_nil_iff.mpr fun x _ => H x

end Selene.Scope
