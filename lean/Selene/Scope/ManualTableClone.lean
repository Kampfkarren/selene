/-
`manual_table_clone.rs`: a `for k, v in pairs(x) do t[k] = v end` loop that fills a fresh empty local table.

The lint is a `Visitor` over statements with two pieces of state — the starts of the statements it is inside of
and the starts of the statements it has left — and it reads the scope tables (which variable the assigned table
is, how it was initialised, which references it has).  Both pieces of state are functions of the program alone:
when the loop `G` is visited, the statements the visitor is inside of are those that contain `G`, and the ones it
has left are those that end before `G` starts.  The model therefore takes the list of all statements (in visit
order) instead of threading the two sets.

The only thing the lint asks the library is whether `table.clone` exists (`enabled`); the only trivia it reads is
the comments in front of the loop (a filter comment naming the lint changes the shape of the report).
-/
import Selene.Scope.Model
import Selene.Lints.TraverseB
import Selene.Filter.Machine
namespace Selene.Scope.ManualTableClone
open Selene.Lua Selene.Scope

inductive LoopType where
  | ipairs | other
deriving DecidableEq, Repr, Inhabited

/-- `strip_parentheses` -/
def stripParens : Expr → Expr
  | .paren _ e => stripParens e
  | e => e

/-- `expression_to_ident`: a bare name, not parenthesised -/
def exprToIdent : Expr → Option Tok
  | .var (.name t) => some t
  | _ => none

/-- the name a call is made through: `f(…)`; a parenthesised prefix is no name -/
def fnToken : Prefix → Option Tok
  | .name t => some t
  | .expr e => exprToIdent e

/-- the one argument of a call written `(a)`: exactly one suffix, an anonymous call with parentheses and one argument -/
def onlyArgument (ss : SuffixList) : Option Expr :=
  match ss.toList with
  | [.args _ (.parens _ args)] =>
    match args.toList with
    | [a] => some a
    | _ => none
  | _ => none

/-- one loop expression: `pairs(x)` / `ipairs(x)` loop over `x`; anything else (Luau's generalised iteration) over itself -/
def loopOfExpr (e : Expr) : Option (LoopType × Expr) :=
  match stripParens e with
  | .call (.mk _ p ss) =>
    match fnToken p with
    | none => none
    | some ft =>
      if ft.text = "ipairs" ∨ ft.text = "pairs" then
        (onlyArgument ss).map fun a => (if ft.text = "ipairs" then .ipairs else .other, a)
      else some (.other, e)
  | _ => some (.other, e)

/-- `loop_expression`: what is looped over, and whether through `ipairs` -/
def loopExpression (es : ExprList) : Option (LoopType × Expr) :=
  match es.toList with
  | [e] => loopOfExpr e
  | [first, second] =>
    match exprToIdent first with
    | some t => if t.text = "next" then some (.other, second) else none
    | none => none
  | _ => none

/-- the table a variable indexes with one bracketed name: `into[key]` -/
def indexedBy (key : String) : Var → Option Tok
  | .expr _ p ss =>
    match fnToken p, ss.toList with
    | some name, [.idx _ ie] => if (exprToIdent ie).map (·.text) = some key then some name else none
    | _, _ => none
  | .name _ => none

/-- the body `into[key] = value` (one statement; a trailing `return` / `break` is not a statement): the token of `into` -/
def assigningInto (key value : String) (b : Block) : Option Tok :=
  match b with
  | .mk _ stmts _ =>
    match stmts.toList with
    | [.assign _ vars es] =>
      match vars.toList with
      | [var] =>
        match indexedBy key var with
        | some name => if (es.toList.head?.bind exprToIdent).map (·.text) = some value then some name else none
        | none => none
      | _ => none
    | _ => none

structure Match where
  range : Span
  assigningInto : String
  loopingOver : Span                 -- the text reported is the tokens of this span, glued
  loopType : LoopType
  replacesDefinition : Option Span
deriving DecidableEq, Repr, Inhabited

/-- `has_filter_comment`: a comment in front of the loop that parses as a filter naming this lint (whatever it says to do) -/
def hasFilterComment (comments : List String) : Bool :=
  comments.any fun c =>
    match Selene.Filter.parseComment c.trimAscii.toString.toList with
    | some cfgs => cfgs.any fun f => f.lint = "manual_table_clone"
    | none => false

/-- the syntactic half of `visit_generic_for`: two loop variables, a loop expression of the recognised form and a body that
assigns the second variable into a table at the first: (how it loops, over what, into which table) -/
def shape (names : List Tok) (es : ExprList) (b : Block) : Option (LoopType × Expr × Tok) :=
  match loopExpression es, names with
  | some (loopType, over), [k, v] => (assigningInto k.text v.text b).map fun into => (loopType, over, into)
  | _, _ => none

/-- the other half, which reads the scope tables and the statements around the loop -/
def judge (σ : St) (stmts : List Span) (comments : List String) (sp : Span) (loopType : LoopType) (over : Expr) (into : Tok) : Option Match :=
  match (refAtTok σ into.idx).bind (σ.refs[·]?) with
  | none => none
  | some r =>
    match r.resolved.bind (σ.vars[·]?) with
    | none => none
    | some var =>
      -- `some false`: initialised with a table constructor that has no fields, `local t = {}`
      if var.staticTable ≠ some false then none
      else
        let def_ := var.defSpan
        -- "make sure we haven't potentially tainted this variable before"
        let tainted := var.references.any fun rid =>
          match σ.refs[rid]? with
          | some r' => decide (def_.last < r'.ident) && decide (r'.ident < into.idx)
          | none => false
        if tainted then none
        else
          -- `get_depth_at_byte`: among the statements the visitor is inside of, those that start before the position
          let inside := stmts.filter fun s => decide (s.first ≤ sp.first) && decide (sp.last ≤ s.last)
          let depthAt := fun (pos : Nat) => (inside.filter fun s => decide (s.first < pos)).length
          if depthAt def_.first ≠ depthAt sp.first then none
          else
            -- `statement_in_way_of_definition`: a statement the visitor has left that starts after the definition
            let completed := stmts.filter fun s => decide (s.last < sp.first)
            let inWay := completed.any fun s => decide (def_.last < s.first)
            let onlyLoop := inWay || hasFilterComment comments
            some { range := if onlyLoop then sp else ⟨def_.first, sp.last⟩,
                   assigningInto := into.text, loopingOver := over.span, loopType,
                   replacesDefinition := if onlyLoop then some def_ else none }

/-- `visit_generic_for` on the loop `for names in es do b end` of span `sp`.  `stmts`: the spans of all statements of the
program; `comments`: those in front of the `for` -/
def visitGenericFor (σ : St) (stmts : List Span) (comments : List String)
    (sp : Span) (names : List Tok) (es : ExprList) (b : Block) : Option Match :=
  match shape names es b with
  | some (loopType, over, into) => judge σ stmts comments sp loopType over into
  | none => none

/-- the spans of all statements, in visit order -/
def stmtSpans (b : Block) : List Span :=
  (Selene.LintsB.nBlock b).filterMap fun n => match n with
    | .stmt s => some (Selene.LintsB.stmtSpan s)
    | _ => none

/-- `pass`: nothing unless the library has `table.clone`; otherwise one match per generic `for`, in visit order -/
def run (enabled : Bool) (σ : St) (leadingComments : Nat → List String) (b : Block) : List Match :=
  if !enabled then []
  else
    let stmts := stmtSpans b
    (Selene.LintsB.nBlock b).filterMap fun n => match n with
      | .stmt (.genFor sp names es body) => visitGenericFor σ stmts (leadingComments sp.first) sp names es body
      | _ => none

/-- `into_diagnostic`: the notes -/
def Match.notes (toks : List String) (m : Match) : List String :=
  ["try `local " ++ m.assigningInto.trimAscii.toString ++ " = table.clone(" ++ (Selene.LintsB.glue toks m.loopingOver).trimAscii.toString ++ ")`"] ++
  (if m.loopType = .ipairs then
    ["if this is a mixed table, then table.clone is not equivalent, as ipairs only goes over the array portion.\n" ++
     "ignore this lint with `-- selene: allow(manual_table_clone)` if this is the case."] else [])

theorem shape_some {names : List Tok} {es : ExprList} {b : Block} {lt : LoopType} {over : Expr} {into : Tok}
    (h : shape names es b = some (lt, over, into)) :
    ∃ k v, names = [k, v] ∧ loopExpression es = some (lt, over) ∧ assigningInto k.text v.text b = some into := by
  unfold shape at h
  split at h
  · rename_i _ _ lt' over' k v hl
    obtain ⟨into', ha, he⟩ := Option.map_eq_some_iff.mp h
    cases he
    exact ⟨k, v, rfl, hl, ha⟩
  · cases h

theorem judge_some {σ : St} {stmts : List Span} {comments : List String} {sp : Span} {lt : LoopType} {over : Expr} {into : Tok} {m : Match}
    (h : judge σ stmts comments sp lt over into = some m) :
    ∃ r var, (refAtTok σ into.idx).bind (σ.refs[·]?) = some r ∧ r.resolved.bind (σ.vars[·]?) = some var ∧
      var.staticTable = some false ∧ m.assigningInto = into.text ∧ m.loopType = lt ∧ m.loopingOver = over.span ∧
      m.range.last = sp.last ∧ (m.range.first = sp.first ∨ m.range.first = var.defSpan.first) ∧
      (m.replacesDefinition = none ∨ m.replacesDefinition = some var.defSpan) := by
  unfold judge at h
  split at h
  · cases h
  · rename_i r hr
    split at h
    · cases h
    · rename_i var hvar
      simp only [Option.ite_none_left_eq_some, Option.some.injEq] at h
      obtain ⟨hst, _, _, rfl⟩ := h
      refine ⟨r, var, hr, hvar, Decidable.not_not.mp hst, rfl, rfl, rfl, ?_⟩
      dsimp only
      split
      · exact ⟨rfl, Or.inl rfl, Or.inr rfl⟩
      · exact ⟨rfl, Or.inr rfl, Or.inl rfl⟩

/-- **Every report is about a loop of the documented shape.**  A match comes from a generic `for` statement of the
program with exactly two loop variables whose body's only statement assigns the second variable into a table at
the first, where the table is a script-declared local initialised with an empty table constructor, and the report's
range ends with the loop. -/
theorem run_sound (enabled : Bool) (σ : St) (lc : Nat → List String) (b : Block) (m : Match) (h : m ∈ run enabled σ lc b) :
    enabled = true ∧
    ∃ sp names es body k v over into r var,
      Selene.LintsB.Node.stmt (.genFor sp names es body) ∈ Selene.LintsB.nBlock b ∧
      names = [k, v] ∧ loopExpression es = some (m.loopType, over) ∧ assigningInto k.text v.text body = some into ∧
      (refAtTok σ into.idx).bind (σ.refs[·]?) = some r ∧ r.resolved.bind (σ.vars[·]?) = some var ∧
      var.staticTable = some false ∧
      m.assigningInto = into.text ∧ m.loopingOver = over.span ∧ m.range.last = sp.last ∧
      (m.range.first = sp.first ∨ m.range.first = var.defSpan.first) := by
  cases enabled with
  | false => cases h
  | true =>
    refine ⟨rfl, ?_⟩
    obtain ⟨n, hn, hm⟩ := List.mem_filterMap.mp h
    split at hm
    · rename_i sp names es body
      unfold visitGenericFor at hm
      split at hm
      · rename_i lt over into hsh
        obtain ⟨k, v, hnames, hl, ha⟩ := shape_some hsh
        obtain ⟨r, var, hr, hvar, hst, h1, h2, h3, h4, h5, _⟩ := judge_some hm
        exact ⟨sp, names, es, body, k, v, over, into, r, var, hn, hnames, h2 ▸ hl, ha, hr, hvar, hst, h1, h3, h4, h5⟩
      · cases hm
    · cases hm

end Selene.Scope.ManualTableClone
