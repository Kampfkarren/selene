/-
The source-order resolver of `Scope/Ordered.lean` answers the same for a chunk and for its renamed twin: every
environment lookup is an equality test on names, which an injective `ρ` preserves (`lookup_renEnv`), and the name
filter is asked only about names `ρ` keeps on their side.  The statement-level lemmas carry `renEnv ρ` through the
environment a statement hands to the next one (`sStmt_ren`, `sBlock_ren`: answers equal, environments renamed).
-/
import Selene.Scope.Ordered
import Selene.Lua.RenameLemmas
namespace Selene.Scope.RenameProof
set_option linter.unusedSectionVars false
open Selene.Lua Selene.Scope.Spec Selene.Scope.Ordered
open Selene.Scope.Core (Ans)

theorem _root_.Eq.append {α : Type} {a a' b b' : List α} (h₁ : a = a') (h₂ : b = b') : a ++ b = a' ++ b' := h₁ ▸ h₂ ▸ rfl

variable [Core.NameFilter]

/-- a renaming of identifiers that can be undone, leaves the two names the language itself introduces
    alone, and does not move a name into or out of the set the name filter keeps (the property's "does
    not match an ignore pattern before or after") -/
structure Renaming (ρ : String → String) : Prop where
  inj : ∀ a b, ρ a = ρ b → a = b
  dots : ρ "..." = "..."
  self : ρ "self" = "self"
  keep : ∀ n, Core.NameFilter.keep (ρ n) = Core.NameFilter.keep n
  read : ∀ n, Core.NameFilter.read (ρ n) = Core.NameFilter.read n
  assign : ∀ n, Core.NameFilter.assign (ρ n) = Core.NameFilter.assign n

def renEnv (ρ : String → String) (env : Env) : Env := env.map fun e => (ρ e.1, e.2)

section
variable {ρ : String → String} (hρ : Renaming ρ)
include hρ

omit [Core.NameFilter] hρ in
theorem lookup_renEnv (ρ : String → String) (env : Env) (n : String) (hinj : ∀ e ∈ env, ρ e.1 = ρ n → e.1 = n) :
    (renEnv ρ env).lookup (ρ n) = env.lookup n := by
  unfold Env.lookup renEnv
  rw [find?_renKey ρ env n hinj]
  cases env.find? (·.1 = n) <;> rfl

theorem look_ren (env : Env) (n : String) : look (renEnv ρ env) (ρ n) = look env n :=
  congrArg (Option.map (·.1) : Option (Nat × DeclKind) → Option Nat) (lookup_renEnv ρ env n fun _ _ => hρ.inj _ _)

theorem sRead_ren (inF : Bool) (env : Env) (t : Tok) (root : Bool := false) :
    sRead inF (renEnv ρ env) (t.ren ρ) root = sRead inF env t root := by
  have hd : (ρ t.text = "...") = (t.text = "...") :=
    propext ⟨fun h => hρ.inj _ _ (h.trans hρ.dots.symm), fun h => h ▸ hρ.dots⟩
  simp only [sRead, Tok.ren, hd, look_ren hρ, hρ.read]

theorem sAssign_ren (env : Env) (t : Tok) : sAssign (renEnv ρ env) (t.ren ρ) = sAssign env t := by
  simp only [sAssign, Tok.ren, look_ren hρ, hρ.assign]

omit hρ in
theorem renEnv_cons_fixed {name : String} (h : ρ name = name) (d : Option (Nat × DeclKind)) (env : Env) :
    renEnv ρ ((name, d) :: env) = (name, d) :: renEnv ρ env :=
  congrArg (fun n => (n, d) :: renEnv ρ env) h

omit hρ in
theorem bindAll_ren (k : DeclKind) : (names : List Tok) → (env : Env) →
    renEnv ρ (bindAll env k names) = bindAll (renEnv ρ env) k (names.map (Tok.ren ρ))
  | [], _ => rfl
  | t :: rest, env => bindAll_ren k rest (bindTok env t t.text k)

theorem bindParams_ren : (ps : List Param) → (env : Env) →
    renEnv ρ (bindParams env ps) = bindParams (renEnv ρ env) (ps.map (Param.ren ρ))
  | [], _ => rfl
  | .name t :: rest, env => bindParams_ren rest (bindTok env t t.text .param)
  | .dots t :: rest, env =>
    (bindParams_ren rest (bindTok env t "..." .varargParam)).trans
      (congrArg (bindParams · (rest.map (Param.ren ρ))) (renEnv_cons_fixed hρ.dots _ env))

theorem sDecl_ren (env : Env) (t : Tok) (name : String) : sDecl (renEnv ρ env) t (ρ name) = sDecl env t name := by
  simp only [sDecl, look_ren hρ, hρ.keep]

theorem sDeclAll_ren (k : DeclKind) : (names : List Tok) → (env : Env) →
    sDeclAll (renEnv ρ env) k (names.map (Tok.ren ρ)) = sDeclAll env k names
  | [], _ => rfl
  | t :: rest, env => (sDecl_ren hρ env t t.text).append (sDeclAll_ren k rest (bindTok env t t.text k))

theorem sDeclParams_ren : (ps : List Param) → (env : Env) →
    sDeclParams (renEnv ρ env) (ps.map (Param.ren ρ)) = sDeclParams env ps
  | [], _ => rfl
  | .name t :: rest, env => (sDecl_ren hρ env t t.text).append (sDeclParams_ren rest (bindTok env t t.text .param))
  | .dots t :: rest, env =>
    (congrArg (sDeclParams · (rest.map (Param.ren ρ))) (renEnv_cons_fixed hρ.dots _ env)).symm.trans
      (sDeclParams_ren rest (bindTok env t "..." .varargParam))

omit hρ in
theorem hasDots_ren (ps : List Param) : hasDots (ps.map (Param.ren ρ)) = hasDots ps := by
  induction ps with
  | nil => rfl
  | cons p rest ih => cases p <;> simp [hasDots, Param.ren, ih]

mutual
theorem eE_ren (inF : Bool) (env : Env) (e : Expr) : eE inF (renEnv ρ env) (e.ren ρ) = eE inF env e := by
  cases e with
  | paren sp e => exact eE_ren inF env e
  | un sp op e => exact eE_ren inF env e
  | bin sp l op r => exact (eE_ren inF env l).append (eE_ren inF env r)
  | func _ _ _ => rfl
  | call c => exact eC_ren inF env c
  | tbl sp fs => exact eFs_ren inF env fs
  | dots t => exact sRead_ren hρ inF env t
  | var v => exact eV_ren inF env v
  | nil _ => rfl
  | true_ _ => rfl
  | false_ _ => rfl
  | num _ => rfl
  | str _ _ _ => rfl
  | unsupported _ => rfl
theorem eEs_ren (inF : Bool) (env : Env) (es : ExprList) : eEs inF (renEnv ρ env) (es.ren ρ) = eEs inF env es := by
  cases es with
  | nil => rfl
  | cons e rest => exact (eE_ren inF env e).append (eEs_ren inF env rest)
theorem eC_ren (inF : Bool) (env : Env) (c : FCall) : eC inF (renEnv ρ env) (c.ren ρ) = eC inF env c := by
  cases c with
  | mk sp p ss => exact (eP_ren inF env p).append (eSs_ren inF env ss)
theorem eP_ren (inF : Bool) (env : Env) (p : Prefix) : eP inF (renEnv ρ env) (p.ren ρ) = eP inF env p := by
  cases p with
  | name t => exact sRead_ren hρ inF env t
  | expr e => exact eE_ren inF env e
theorem eSs_ren (inF : Bool) (env : Env) (ss : SuffixList) : eSs inF (renEnv ρ env) (ss.ren ρ) = eSs inF env ss := by
  cases ss with
  | nil => rfl
  | cons s rest => exact (eS_ren inF env s).append (eSs_ren inF env rest)
theorem eS_ren (inF : Bool) (env : Env) (s : Suffix) : eS inF (renEnv ρ env) (s.ren ρ) = eS inF env s := by
  cases s with
  | dot _ _ => rfl
  | idx sp e => exact eE_ren inF env e
  | args sp a => exact eA_ren inF env a
  | meth sp n a => exact eA_ren inF env a
  | unsupported _ => rfl
theorem eA_ren (inF : Bool) (env : Env) (a : Args) : eA inF (renEnv ρ env) (a.ren ρ) = eA inF env a := by
  cases a with
  | parens sp es => exact eEs_ren inF env es
  | tbl sp fs => exact eFs_ren inF env fs
  | str _ _ _ => rfl
theorem eFs_ren (inF : Bool) (env : Env) (fs : FieldList) : eFs inF (renEnv ρ env) (fs.ren ρ) = eFs inF env fs := by
  cases fs with
  | nil => rfl
  | cons f rest =>
    have ih := eFs_ren inF env rest
    cases f with
    | exprKey sp k v => exact ((eE_ren inF env k).append (eE_ren inF env v)).append ih
    | nameKey sp k v => exact (eE_ren inF env v).append ih
    | noKey v => exact (eE_ren inF env v).append ih
    | unsupported sp => exact ih
theorem eV_ren (inF : Bool) (env : Env) (v : Var) : eV inF (renEnv ρ env) (v.ren ρ) = eV inF env v := by
  cases v with
  | name t => exact sRead_ren hρ inF env t
  | expr sp p ss => exact (eP_ren inF env p).append (eSs_ren inF env ss)
end

theorem ePT_ren (inF : Bool) (env : Env) (p : Prefix) : ePT inF (renEnv ρ env) (p.ren ρ) = ePT inF env p := by
  cases p with
  | name t => exact sRead_ren hρ inF env t true
  | expr e => exact eE_ren hρ inF env e

theorem eVT_ren (inF : Bool) (env : Env) (v : Var) : eVT inF (renEnv ρ env) (v.ren ρ) = eVT inF env v := by
  cases v with
  | name t => exact sRead_ren hρ inF env t true
  | expr sp p ss => exact (ePT_ren hρ inF env p).append (eSs_ren hρ inF env ss)

theorem sTargets_ren (inF : Bool) (env : Env) : (vars : VarList) → (es : ExprList) →
    sTargets inF (renEnv ρ env) (vars.ren ρ) (es.ren ρ) = sTargets inF env vars es
  | .nil, es => eEs_ren hρ inF env es
  | .cons (.name n) rest, .nil => (Eq.append rfl (sAssign_ren hρ env n)).append (sTargets_ren inF env rest .nil)
  | .cons (.name n) rest, .cons e es =>
    ((eE_ren hρ inF env e).append (sAssign_ren hρ env n)).append (sTargets_ren inF env rest es)
  | .cons (.expr sp p ss) rest, .nil =>
    (Eq.append rfl (eVT_ren hρ inF env (.expr sp p ss))).append (sTargets_ren inF env rest .nil)
  | .cons (.expr sp p ss) rest, .cons e es =>
    ((eE_ren hρ inF env e).append (eVT_ren hρ inF env (.expr sp p ss))).append (sTargets_ren inF env rest es)

mutual
theorem rE_ren (inF : Bool) (env : Env) (e : Expr) : rE inF (renEnv ρ env) (e.ren ρ) = rE inF env e := by
  cases e with
  | paren sp e => exact rE_ren inF env e
  | un sp op e => exact rE_ren inF env e
  | bin sp l op r => exact (rE_ren inF env l).append (rE_ren inF env r)
  | func _ _ _ => rfl
  | call c => cases c; rfl
  | tbl sp fs => exact rFs_ren inF env fs
  | dots t => exact sRead_ren hρ inF env t
  | var v =>
    cases v with
    | name t => exact sRead_ren hρ inF env t
    | expr sp p ss => exact rP_ren inF env p
  | nil _ => rfl
  | true_ _ => rfl
  | false_ _ => rfl
  | num _ => rfl
  | str _ _ _ => rfl
  | unsupported _ => rfl
theorem rP_ren (inF : Bool) (env : Env) (p : Prefix) : rP inF (renEnv ρ env) (p.ren ρ) = rP inF env p := by
  cases p with
  | name t => exact sRead_ren hρ inF env t
  | expr e => exact rE_ren inF env e
theorem rF_ren (inF : Bool) (env : Env) (f : Field) : rF inF (renEnv ρ env) (f.ren ρ) = rF inF env f := by
  cases f with
  | exprKey sp k v => exact (rE_ren inF env k).append (rE_ren inF env v)
  | nameKey sp k v => exact rE_ren inF env v
  | noKey v => exact rE_ren inF env v
  | unsupported sp => rfl
theorem rFs_ren (inF : Bool) (env : Env) (fs : FieldList) : rFs inF (renEnv ρ env) (fs.ren ρ) = rFs inF env fs := by
  cases fs with
  | nil => rfl
  | cons f rest => exact (rF_ren inF env f).append (rFs_ren inF env rest)
end

mutual
theorem dE_ren (inF : Bool) (env : Env) (e : Expr) : dE inF (renEnv ρ env) (e.ren ρ) = dE inF env e := by
  cases e with
  | paren sp e => exact dE_ren inF env e
  | un sp op e => exact dE_ren inF env e
  | bin sp l op r => exact (dE_ren inF env l).append (dE_ren inF env r)
  | func sp kw body => exact sBody_ren env none body
  | call c => exact dC_ren inF env c
  | tbl sp fs => exact dFs_ren inF env fs
  | dots t => rfl
  | var v => exact dV_ren inF env v
  | nil _ => rfl
  | true_ _ => rfl
  | false_ _ => rfl
  | num _ => rfl
  | str _ _ _ => rfl
  | unsupported _ => rfl
theorem dEs_ren (inF : Bool) (env : Env) (es : ExprList) : dEs inF (renEnv ρ env) (es.ren ρ) = dEs inF env es := by
  cases es with
  | nil => rfl
  | cons e rest => exact (dE_ren inF env e).append (dEs_ren inF env rest)
theorem dC_ren (inF : Bool) (env : Env) (c : FCall) : dC inF (renEnv ρ env) (c.ren ρ) = dC inF env c := by
  cases c with
  | mk sp p ss => exact (dP_ren inF env p).append (dSs_ren inF env ss)
theorem dP_ren (inF : Bool) (env : Env) (p : Prefix) : dP inF (renEnv ρ env) (p.ren ρ) = dP inF env p := by
  cases p with
  | name t => rfl
  | expr e => exact dE_ren inF env e
theorem dSs_ren (inF : Bool) (env : Env) (ss : SuffixList) : dSs inF (renEnv ρ env) (ss.ren ρ) = dSs inF env ss := by
  cases ss with
  | nil => rfl
  | cons s rest => exact (dS_ren inF env s).append (dSs_ren inF env rest)
theorem dS_ren (inF : Bool) (env : Env) (s : Suffix) : dS inF (renEnv ρ env) (s.ren ρ) = dS inF env s := by
  cases s with
  | dot _ _ => rfl
  | idx sp e => exact dE_ren inF env e
  | args sp a => exact dA_ren inF env a
  | meth sp n a => exact dA_ren inF env a
  | unsupported _ => rfl
theorem dA_ren (inF : Bool) (env : Env) (a : Args) : dA inF (renEnv ρ env) (a.ren ρ) = dA inF env a := by
  cases a with
  | parens sp es => exact dEs_ren inF env es
  | tbl sp fs => exact dFs_ren inF env fs
  | str _ _ _ => rfl
theorem dFs_ren (inF : Bool) (env : Env) (fs : FieldList) : dFs inF (renEnv ρ env) (fs.ren ρ) = dFs inF env fs := by
  cases fs with
  | nil => rfl
  | cons f rest =>
    have ih := dFs_ren inF env rest
    cases f with
    | exprKey sp k v => exact ((dE_ren inF env k).append (dE_ren inF env v)).append ih
    | nameKey sp k v => exact (dE_ren inF env v).append ih
    | noKey v => exact (dE_ren inF env v).append ih
    | unsupported sp => exact ih
theorem dV_ren (inF : Bool) (env : Env) (v : Var) : dV inF (renEnv ρ env) (v.ren ρ) = dV inF env v := by
  cases v with
  | name t => rfl
  | expr sp p ss => exact (dP_ren inF env p).append (dSs_ren inF env ss)
theorem dVs_ren (inF : Bool) (env : Env) (vs : VarList) : dVs inF (renEnv ρ env) (vs.ren ρ) = dVs inF env vs := by
  cases vs with
  | nil => rfl
  | cons v rest => exact (dV_ren inF env v).append (dVs_ren inF env rest)
theorem sSs_ren (inF : Bool) (env : Env) (ss : SuffixList) : sSs inF (renEnv ρ env) (ss.ren ρ) = sSs inF env ss := by
  cases ss with
  | nil => rfl
  | cons s rest => exact ((eS_ren hρ inF env s).append (dS_ren inF env s)).append (sSs_ren inF env rest)
theorem tE_ren (inF : Bool) (env : Env) (e : Expr) : tE inF (renEnv ρ env) (e.ren ρ) = tE inF env e := by
  cases e with
  | paren sp e => exact tE_ren inF env e
  | un sp op e => exact tE_ren inF env e
  | bin sp l op r => exact (tE_ren inF env l).append (tE_ren inF env r)
  | func sp kw body => exact sBody_ren env none body
  | call c =>
    cases c with
    | mk sp p ss => exact ((eP_ren hρ inF env p).append (dP_ren inF env p)).append (sSs_ren inF env ss)
  | tbl sp fs => exact tFs_ren inF env fs
  | dots t => rfl
  | var v =>
    cases v with
    | name t => rfl
    | expr sp p ss => exact (tP_ren inF env p).append (sSs_ren inF env ss)
  | nil _ => rfl
  | true_ _ => rfl
  | false_ _ => rfl
  | num _ => rfl
  | str _ _ _ => rfl
  | unsupported _ => rfl
theorem tP_ren (inF : Bool) (env : Env) (p : Prefix) : tP inF (renEnv ρ env) (p.ren ρ) = tP inF env p := by
  cases p with
  | name t => rfl
  | expr e => exact tE_ren inF env e
theorem tF_ren (inF : Bool) (env : Env) (f : Field) : tF inF (renEnv ρ env) (f.ren ρ) = tF inF env f := by
  cases f with
  | exprKey sp k v => exact (tE_ren inF env k).append (tE_ren inF env v)
  | nameKey sp k v => exact tE_ren inF env v
  | noKey v => exact tE_ren inF env v
  | unsupported sp => rfl
theorem tFs_ren (inF : Bool) (env : Env) (fs : FieldList) : tFs inF (renEnv ρ env) (fs.ren ρ) = tFs inF env fs := by
  cases fs with
  | nil => rfl
  | cons f rest => exact (tF_ren inF env f).append (tFs_ren inF env rest)
theorem sBody_ren (env : Env) (selfTok : Option Tok) (body : FuncBody) :
    sBody (renEnv ρ env) selfTok (body.ren ρ) = sBody env selfTok body := by
  cases body with
  | mk sp params b =>
    have key : ∀ (env₀ : Env) {ds ds' : List Ans}, ds = ds' →
        ds ++ sDeclParams (("...", none) :: renEnv ρ env₀) (params.map (Param.ren ρ)) ++
          (sBlock true (bindParams (("...", none) :: renEnv ρ env₀) (params.map (Param.ren ρ))) (b.ren ρ)).1 =
        ds' ++ sDeclParams (("...", none) :: env₀) params ++
          (sBlock true (bindParams (("...", none) :: env₀) params) b).1 := by
      intro env₀ ds ds' h
      rw [← renEnv_cons_fixed hρ.dots, ← bindParams_ren hρ]
      exact (h.append (sDeclParams_ren hρ params _)).append (sBlock_ren true _ b).1
    cases selfTok with
    | none => exact key env rfl
    | some m =>
      have := key (bindTok env m "self" .self_) (hρ.self ▸ sDecl_ren hρ env m "self")
      rw [show renEnv ρ (bindTok env m "self" .self_) = bindTok (renEnv ρ env) m "self" .self_ from
        renEnv_cons_fixed hρ.self _ env] at this
      exact this
theorem sBlock_ren (inF : Bool) (env : Env) (b : Block) :
    (sBlock inF (renEnv ρ env) (b.ren ρ)).1 = (sBlock inF env b).1 ∧
    (sBlock inF (renEnv ρ env) (b.ren ρ)).2 = renEnv ρ (sBlock inF env b).2 := by
  cases b with
  | mk sp stmts last =>
    obtain ⟨h1, h2⟩ := sStmts_ren inF env stmts
    cases last with
    | none => exact ⟨h1, h2⟩
    | brk _ => exact ⟨h1, h2⟩
    | ret rsp es => exact ⟨(h1.append (h2 ▸ eEs_ren hρ inF _ es)).append (h2 ▸ dEs_ren inF _ es), h2⟩
theorem sStmts_ren (inF : Bool) (env : Env) (l : StmtList) :
    (sStmts inF (renEnv ρ env) (l.ren ρ)).1 = (sStmts inF env l).1 ∧
    (sStmts inF (renEnv ρ env) (l.ren ρ)).2 = renEnv ρ (sStmts inF env l).2 := by
  cases l with
  | nil => exact ⟨rfl, rfl⟩
  | cons s rest =>
    obtain ⟨h1, h2⟩ := sStmt_ren inF env s
    obtain ⟨h3, h4⟩ := sStmts_ren inF (sStmt inF env s).2 rest
    rw [← h2] at h3 h4
    exact ⟨h1.append h3, h4⟩
theorem sElifs_ren (inF : Bool) (env : Env) (l : ElseIfList) : sElifs inF (renEnv ρ env) (l.ren ρ) = sElifs inF env l := by
  cases l with
  | nil => rfl
  | cons e rest =>
    cases e with
    | mk sp c b =>
      exact (((eE_ren hρ inF env c).append (dE_ren inF env c)).append (sBlock_ren inF env b).1).append
        (sElifs_ren inF env rest)
theorem sStmt_ren (inF : Bool) (env : Env) (s : Stmt) :
    (sStmt inF (renEnv ρ env) (s.ren ρ)).1 = (sStmt inF env s).1 ∧
    (sStmt inF (renEnv ρ env) (s.ren ρ)).2 = renEnv ρ (sStmt inF env s).2 := by
  cases s with
  | assign sp vars es =>
    exact ⟨(sTargets_ren hρ inF env vars es).append (dVs_ren inF env vars) |>.append (dEs_ren inF env es), rfl⟩
  | localAssign sp names es =>
    exact ⟨(eEs_ren hρ inF env es).append (dEs_ren inF env es) |>.append (sDeclAll_ren hρ .local_ names env),
      (bindAll_ren .local_ names env).symm⟩
  | call c =>
    cases c with
    | mk sp p ss => exact ⟨(eP_ren hρ inF env p).append (dP_ren inF env p) |>.append (sSs_ren inF env ss), rfl⟩
  | do_ sp b => exact ⟨(sBlock_ren inF env b).1, rfl⟩
  | while_ sp c b =>
    exact ⟨(eE_ren hρ inF env c).append (dE_ren inF env c) |>.append (sBlock_ren inF env b).1, rfl⟩
  | repeat_ sp b c =>
    obtain ⟨h1, h2⟩ := sBlock_ren inF env b
    exact ⟨h1.append (h2 ▸ tE_ren inF _ c) |>.append (h2 ▸ rE_ren hρ inF _ c), rfl⟩
  | if_ sp c b elifs els =>
    have h := (eE_ren hρ inF env c).append (dE_ren inF env c) |>.append (sBlock_ren inF env b).1
      |>.append (sElifs_ren inF env elifs)
    cases els with
    | none => exact ⟨h.append rfl, rfl⟩
    | some eb => exact ⟨h.append (sBlock_ren inF env eb).1, rfl⟩
  | numFor sp v comma start stop step b =>
    have he := (eE_ren hρ inF env start).append (eE_ren hρ inF env stop)
    have hd₁ := dE_ren inF env start
    have hd₂ := dE_ren inF env stop
    have hv := sDecl_ren hρ env v v.text
    have hb := (sBlock_ren inF (bindTok env v v.text .loopVar) b).1
    cases step with
    | none => exact ⟨he.append rfl |>.append hd₁ |>.append hd₂ |>.append rfl |>.append hv |>.append hb, rfl⟩
    | some e =>
      exact ⟨he.append (eE_ren hρ inF env e) |>.append hd₁ |>.append hd₂ |>.append (dE_ren inF env e) |>.append hv
        |>.append hb, rfl⟩
  | genFor sp names es b =>
    refine ⟨(eEs_ren hρ inF env es).append (dEs_ren inF env es) |>.append (sDeclAll_ren hρ .loopVar names env)
      |>.append ?_, rfl⟩
    rw [← bindAll_ren]
    exact (sBlock_ren inF _ b).1
  | func sp name body =>
    obtain ⟨nsp, names, method⟩ := name
    cases names with
    | nil => exact ⟨rfl, rfl⟩
    | cons base more =>
      exact ⟨.append (ite_congr rfl (fun _ => sRead_ren hρ inF env base true) fun _ => sAssign_ren hρ env base)
        (sBody_ren env method body), rfl⟩
  | localFunc sp name body =>
    exact ⟨(sDecl_ren hρ env name name.text).append (sBody_ren (bindTok env name name.text .localFunc) none body), rfl⟩
  | unsupported _ => exact ⟨rfl, rfl⟩
end

/-- **resolution does not depend on how names are spelled**: the ordered answers of a chunk and of its
    consistently renamed twin coincide -/
theorem chunk_ren (b : Block) : chunk (b.ren ρ) = chunk b :=
  (sBlock_ren hρ false [] b).1
end
end Selene.Scope.RenameProof
