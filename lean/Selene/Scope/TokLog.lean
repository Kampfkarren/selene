/-
Every read the machine records is the first reference recorded at its token, provided the identifier tokens of the tree
are pairwise distinct: hence `St.firstRefCoherent`, the hypothesis of `C07_std_inside` / `C07_std_outside`.  The log is
followed only through the token and kind of each entry (`tokLog`), which hoisting does not touch.  This file,
`TokTraverse` and `Coherent` declare into `Selene.Scope.Core` for dot notation; nothing in them is part of the model.
-/
import Selene.Scope.RefAt
namespace Selene.Scope.Core
open Selene.Lua

inductive K where
  | decl | write | read
deriving DecidableEq, Repr

def Ref.k (r : Ref) : K := if r.decl then .decl else if r.write then .write else .read

theorem Ref.k_read {r : Ref} (hd : r.decl = false) (hw : r.write = false) : r.k = K.read := by
  simp [Ref.k, hd, hw]

theorem Ref.k_ne_decl {r : Ref} (hd : r.decl = false) : r.k ≠ K.decl := by
  unfold Ref.k
  rw [hd]
  by_cases hw : r.write = true <;> simp [hw]

def St.tokLog (σ : St) : List (Nat × K) := σ.refs.map fun r => (r.tok, r.k)

/-- no read is preceded by a reference (declarations apart) at the same token -/
def NoEarlier (L : List (Nat × K)) : Prop :=
  ∀ pre t post, L = pre ++ (t, K.read) :: post → ∀ e ∈ pre, e.2 ≠ K.decl → e.1 ≠ t

/-- the tokens of the entries that are references -/
def refToks (L : List (Nat × K)) : List Nat := (L.filter fun e => e.2 != K.decl).map (·.1)

theorem noEarlier_iff {L : List (Nat × K)} :
    NoEarlier L ↔ L.Pairwise fun a b => b.2 = K.read → a.2 ≠ K.decl → a.1 ≠ b.1 := by
  constructor
  · intro h
    refine List.pairwise_iff_forall_sublist.mpr fun {a b} hab hr => ?_
    obtain ⟨pre, l, rfl, ha, hb⟩ := List.cons_sublist_iff.mp hab
    obtain ⟨s, post, rfl⟩ := List.append_of_mem (List.singleton_sublist.mp hb)
    exact h (pre ++ s) b.1 post (by rw [← hr, List.append_assoc]) a (List.mem_append_left s ha)
  · intro h pre t post e x hx
    subst e
    exact (List.pairwise_append.mp h).2.2 x hx _ (.head _) rfl

theorem NoEarlier.nil : NoEarlier [] := noEarlier_iff.mpr .nil

theorem noEarlier_single (e : Nat × K) : NoEarlier [e] := noEarlier_iff.mpr (List.pairwise_singleton _ _)

theorem mem_refToks {L : List (Nat × K)} {e : Nat × K} (h : e ∈ L) (hk : e.2 ≠ K.decl) : e.1 ∈ refToks L :=
  List.mem_map_of_mem (List.mem_filter.mpr ⟨h, bne_iff_ne.mpr hk⟩)

theorem refToks_append (A B : List (Nat × K)) : refToks (A ++ B) = refToks A ++ refToks B := by
  simp [refToks, List.filter_append]

theorem NoEarlier.append {A B : List (Nat × K)} (hA : NoEarlier A) (hB : NoEarlier B)
    (hd : ∀ t, t ∈ refToks A → t ∈ refToks B → False) : NoEarlier (A ++ B) :=
  noEarlier_iff.mpr <| List.pairwise_append.mpr ⟨noEarlier_iff.mp hA, noEarlier_iff.mp hB, fun a ha b hb hr hk e =>
    hd a.1 (mem_refToks ha hk) (e ▸ mem_refToks hb (by simp [hr]))⟩

/-- `σ'` extends the log of `σ` by entries whose references sit at tokens of `T`, none of whose reads is
preceded, among the new entries, by a reference at the same token -/
def Ext (T : List Nat) (σ σ' : St) : Prop :=
  ∃ N, σ'.tokLog = σ.tokLog ++ N ∧ NoEarlier N ∧ ∀ t ∈ refToks N, t ∈ T

theorem Ext.refl (T : List Nat) (σ : St) : Ext T σ σ := ⟨[], (List.append_nil _).symm, .nil, List.forall_mem_nil _⟩

theorem Ext.mono {T T' : List Nat} {σ σ' : St} (h : Ext T σ σ') (hs : ∀ t ∈ T, t ∈ T') : Ext T' σ σ' := by
  obtain ⟨N, h1, h2, h3⟩ := h
  exact ⟨N, h1, h2, fun t ht => hs t (h3 t ht)⟩

theorem Ext.congr {T : List Nat} {σ₁ σ₂ σ₁' σ₂' : St} (h : Ext T σ₁ σ₂) (e₁ : σ₁'.tokLog = σ₁.tokLog)
    (e₂ : σ₂'.tokLog = σ₂.tokLog) : Ext T σ₁' σ₂' := by
  obtain ⟨N, h1, h2, h3⟩ := h
  exact ⟨N, by rw [e₁, e₂, h1], h2, h3⟩

theorem Ext.of_eq {T : List Nat} {σ σ' : St} (h : σ'.tokLog = σ.tokLog) : Ext T σ σ' := (Ext.refl T σ).congr rfl h

theorem Ext.seq {T₁ T₂ : List Nat} {σ σ' σ'' : St} (h₁ : Ext T₁ σ σ') (h₂ : Ext T₂ σ' σ'')
    (hd : ∀ t, t ∈ T₁ → t ∈ T₂ → False) : Ext (T₁ ++ T₂) σ σ'' := by
  obtain ⟨N₁, a1, a2, a3⟩ := h₁
  obtain ⟨N₂, b1, b2, b3⟩ := h₂
  refine ⟨N₁ ++ N₂, by rw [b1, a1, List.append_assoc], a2.append b2 fun t h1 h2 => hd t (a3 t h1) (b3 t h2), ?_⟩
  intro t ht
  rw [refToks_append] at ht
  exact List.mem_append.mpr ((List.mem_append.mp ht).imp (a3 t) (b3 t))

theorem Ext.nil_then {T : List Nat} {σ σ' σ'' : St} (h₁ : Ext [] σ σ') (h₂ : Ext T σ' σ'') : Ext T σ σ'' :=
  h₁.seq h₂ fun _ h _ => nomatch h

/-! Combinators for steps `∀ σ, T.Nodup → Ext T σ (f σ)`.  The outermost one of a term has to be that of the last operation
of the function it speaks of (`Ext.closed` for `(…).close`), or the elaborator splits the composition in the wrong place. -/

theorem Ext.comp {T₁ T₂ : List Nat} {f g : St → St} (hf : ∀ σ, T₁.Nodup → Ext T₁ σ (f σ))
    (hg : ∀ σ, T₂.Nodup → Ext T₂ σ (g σ)) (σ : St) (h : (T₁ ++ T₂).Nodup) : Ext (T₁ ++ T₂) σ (g (f σ)) := by
  obtain ⟨h₁, h₂, hd⟩ := List.nodup_append.mp h
  exact (hf σ h₁).seq (hg _ h₂) fun t a b => hd t a t b rfl

theorem Ext.nil_comp {T : List Nat} {f g : St → St} (hf : ∀ σ, Ext [] σ (f σ))
    (hg : ∀ σ, T.Nodup → Ext T σ (g σ)) (σ : St) (h : T.Nodup) : Ext T σ (g (f σ)) :=
  (hf σ).nil_then (hg _ h)

theorem Ext.comp_nil {T : List Nat} {f g : St → St} (hf : ∀ σ, T.Nodup → Ext T σ (f σ))
    (hg : ∀ σ, Ext [] σ (g σ)) (σ : St) (h : T.Nodup) : Ext T σ (g (f σ)) :=
  List.append_nil T ▸ (hf σ h).seq (hg _) fun _ _ h => nomatch h

theorem Ext.closed {T : List Nat} {f : St → St} (hf : ∀ σ, T.Nodup → Ext T σ (f σ)) (σ : St) (h : T.Nodup) :
    Ext T σ (f σ).close :=
  (hf σ h).congr rfl rfl

theorem Ext.skip {T : List Nat} (σ : St) (_ : T.Nodup) : Ext T σ σ := Ext.refl T σ

@[simp] theorem tokLog_define (σ : St) (e : Entry) : (σ.define e).tokLog = σ.tokLog := by
  unfold St.define; split <;> rfl
@[simp] theorem tokLog_open (σ : St) : σ.open.tokLog = σ.tokLog := rfl
@[simp] theorem tokLog_close (σ : St) : σ.close.tokLog = σ.tokLog := rfl
theorem open_ext (σ : St) : Ext [] σ σ.open := Ext.of_eq rfl
theorem close_ext (σ : St) : Ext [] σ σ.close := Ext.of_eq rfl
@[simp] theorem tokLog_fdepth (σ : St) (n : Nat) : ({ σ with fdepth := n } : St).tokLog = σ.tokLog := rfl

theorem tokLog_map_rewrite (σ : St) (name : String) (v : Nat × Bool) :
    ({ σ with refs := σ.refs.map (rewrite name v) } : St).tokLog = σ.tokLog := by
  refine List.map_map.trans (List.map_congr_left fun r _ => ?_)
  show ((rewrite name v r).tok, (rewrite name v r).k) = (r.tok, r.k)
  unfold rewrite
  split <;> rfl

theorem read_tokLog (σ : St) (t : Tok) (c r : Bool) :
    (σ.read t c r).tokLog = σ.tokLog ∨ (σ.read t c r).tokLog = σ.tokLog ++ [(t.idx, K.read)] := by
  unfold St.read
  split
  · exact .inl rfl
  · exact .inr (List.map_append)

theorem read_ext (σ : St) (t : Tok) (c r : Bool) : Ext [t.idx] σ (σ.read t c r) :=
  (read_tokLog σ t c r).elim Ext.of_eq fun h => ⟨_, h, noEarlier_single _, fun _ h => h⟩

theorem logWrite_tokLog (σ : St) (t : Tok) : (σ.logWrite t).tokLog = σ.tokLog ++ [(t.idx, K.write)] :=
  List.map_append

theorem hoist_tokLog (σ : St) (t : Tok) : (σ.hoist t).tokLog = σ.tokLog ++ [(t.idx, K.write)] := by
  unfold St.hoist
  simp only
  split
  · exact logWrite_tokLog σ t
  · rw [tokLog_map_rewrite, tokLog_define, logWrite_tokLog]

theorem hoist_ext (σ : St) (t : Tok) : Ext [t.idx] σ (σ.hoist t) :=
  ⟨[(t.idx, K.write)], hoist_tokLog σ t, noEarlier_single _, fun _ h => h⟩

/-- `function f`: the read of `f`, then the write of `f`, at one token -/
theorem readHoist_ext (σ : St) (t : Tok) : Ext [t.idx] σ ((σ.read t false).hoist t) := by
  rcases read_tokLog σ t false false with h | h
  · exact (hoist_ext _ t).congr h.symm rfl
  · exact ⟨[(t.idx, K.read), (t.idx, K.write)], by rw [hoist_tokLog, h, List.append_assoc]; rfl,
      noEarlier_iff.mpr (List.pairwise_pair.mpr fun h => nomatch h), by simp [refToks]⟩

theorem logDecl_tokLog (σ : St) (t : Tok) (n : String) : (σ.logDecl t n).tokLog = σ.tokLog ++ [(t.idx, K.decl)] :=
  List.map_append

theorem noEarlier_decl (t : Nat) : NoEarlier [(t, K.decl)] := noEarlier_single _

theorem declare_ext (σ : St) (t : Tok) (n : String) : Ext [] σ (σ.declare t n) :=
  ⟨[(t.idx, K.decl)], (tokLog_define _ _).trans (logDecl_tokLog σ t n), noEarlier_decl t.idx, fun _ h => h⟩

end Selene.Scope.Core
