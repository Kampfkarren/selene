/-
Invariants of the scope-stack machine about hoisting (`try_hoist`): which reads end up resolved to a global the file
assigns.  `Inv` holds of every reachable state; `Inv.noh` is the direction "reported unless assigned" of `undefined_variable`
(`Props/C01.lean`).  `Good n`, once true, stays so while the entry's scope is open, so for the rest of the file for the
outermost scope: the direction "never reported when assigned".  `CoreProof` carries both (field `safe`).
-/
import Selene.Scope.Core
import Selene.Scope.ListLemmas
namespace Selene.Scope.Safe
open Selene.Lua Selene.Scope.Core

/-- every entry without a variable is a `...` barrier -/
def BarrierOK (st : Stack) : Prop := ∀ s ∈ st, ∀ e ∈ s, e.info = none → e.name = "..."

def OnStack (n : String) (st : Stack) : Prop := ∃ s ∈ st, ∃ e ∈ s, e.name = n

def HoistOn (n : String) (st : Stack) : Prop := ∃ s ∈ st, ∃ e ∈ s, e.name = n ∧ ∃ d, e.info = some (d, true)

/-- no read of `n` is unresolved -/
def Resolved (n : String) (refs : List Ref) : Prop :=
  ∀ r ∈ refs, r.name = n → r.decl = false → r.write = false → r.resolved ≠ none

/-- the read `function f … end` makes of `f` is resolved -/
def UOK (refs : List Ref) : Prop :=
  ∀ r ∈ refs, r.decl = false → r.write = false → r.expr = false → r.resolved ≠ none

/-- `n` was never hoisted -/
def NoHoist (n : String) (σ : St) : Prop :=
  ¬ HoistOn n σ.stack ∧ ∀ r ∈ σ.refs, r.name = n → ∀ d, r.resolved ≠ some (d, true)

/-- every recorded plain-name write of `n` met a local declaration -/
def LocalWrites (n : String) (refs : List Ref) : Prop :=
  ∀ r ∈ refs, r.write = true → r.name = n → (localOf r.resolved).isSome = true

/-- first clause: `St.read` sets both flags from one argument; it takes `C01_sound` from `uok` (about `expr`) to `counted` -/
def RefShape (refs : List Ref) : Prop :=
  ∀ r ∈ refs, (r.decl = false → r.write = false → r.counted = r.expr) ∧
              (r.write = true → r.decl = false ∧ r.counted = (localOf r.resolved).isNone)

/-- `hoist` leaves out `"..."`: a function scope's barrier is an entry of that name that looks up to nothing, so a read
    of `...` under it stays unresolved even with a hoisted entry further out -/
structure Inv (σ : St) : Prop where
  bar : BarrierOK σ.stack
  hoist : ∀ n, n ≠ "..." → HoistOn n σ.stack → Resolved n σ.refs
  uok : UOK σ.refs
  noh : ∀ n, LocalWrites n σ.refs → NoHoist n σ
  shape : RefShape σ.refs

def Good (n : String) (σ : St) : Prop := OnStack n σ.stack ∧ Resolved n σ.refs

/-- `good` takes `Inv σ`: that a new read of `n` is resolved while `n` is on the stack needs `bar` (`stackFind_ne_none`) -/
structure Step (σ σ' : St) : Prop where
  inv : Inv σ → Inv σ'
  good : ∀ n, n ≠ "..." → Inv σ → Good n σ → Good n σ'

theorem Step.refl (σ : St) : Step σ σ := ⟨id, fun _ _ _ g => g⟩

theorem Step.trans {σ₁ σ₂ σ₃ : St} (h₁ : Step σ₁ σ₂) (h₂ : Step σ₂ σ₃) : Step σ₁ σ₃ :=
  ⟨fun i => h₂.inv (h₁.inv i), fun n hn i g => h₂.good n hn (h₁.inv i) (h₁.good n hn i g)⟩

theorem scopeFind_some {s : Scope} {n : String} {e : Entry} (h : scopeFind s n = some e) : e ∈ s ∧ e.name = n :=
  ⟨List.mem_of_find?_eq_some h, by simpa using List.find?_some h⟩

theorem scopeFind_none {s : Scope} {n : String} (h : scopeFind s n = none) : ∀ e ∈ s, e.name ≠ n :=
  fun e he hen => List.find?_eq_none.mp h e he (decide_eq_true hen)

theorem stackFind_eq (st : Stack) (n : String) : stackFind st n = (scopeFind st.flatten n).bind (·.info) := by
  induction st with
  | nil => rfl
  | cons s rest ih =>
    unfold stackFind
    rw [ih]
    unfold scopeFind
    rw [List.flatten_cons, List.find?_append]
    cases s.find? (·.name = n) <;> rfl

theorem stackFind_ne_none (st : Stack) (n : String) (hb : BarrierOK st) (hn : n ≠ "...") (ho : OnStack n st) :
    stackFind st n ≠ none := by
  obtain ⟨s, hs, e, he, hen⟩ := ho
  rw [stackFind_eq]
  cases hf : scopeFind st.flatten n with
  | none => exact absurd hen (scopeFind_none hf e (List.mem_flatten_of_mem hs he))
  | some x =>
    obtain ⟨hx, hxn⟩ := scopeFind_some hf
    obtain ⟨s', hs', hx⟩ := List.mem_flatten.mp hx
    exact fun h => hn (hxn ▸ hb s' hs' x hx h)

theorem stackFind_hoisted (st : Stack) (n : String) (d : Nat) (h : stackFind st n = some (d, true)) : HoistOn n st := by
  obtain ⟨x, hf, hxi⟩ := Option.bind_eq_some_iff.mp (stackFind_eq st n ▸ h)
  obtain ⟨hx, hxn⟩ := scopeFind_some hf
  obtain ⟨s, hs, hx⟩ := List.mem_flatten.mp hx
  exact ⟨s, hs, x, hx, hxn, d, hxi⟩

theorem HoistOn.onStack {n : String} {st : Stack} (h : HoistOn n st) : OnStack n st := by
  obtain ⟨s, hs, e, he, hen, _⟩ := h
  exact ⟨s, hs, e, he, hen⟩

theorem barrierOK_cons_scope {s : Scope} {st : Stack} (h : BarrierOK (s :: st)) : BarrierOK st :=
  fun s' hs' => h s' (List.mem_cons_of_mem s hs')

theorem BarrierOK.mono {st st' : Stack} (hb : BarrierOK st)
    (h : ∀ x ∈ st'.flatten, x ∈ st.flatten ∨ (x.info = none → x.name = "...")) : BarrierOK st' :=
  List.forall_mem_flatten.mp fun x hx hxi =>
    (h x hx).elim (fun h' => List.forall_mem_flatten.mpr hb x h' hxi) fun h' => h' hxi

theorem HoistOn.mono {n : String} {st st' : Stack} (hh : HoistOn n st')
    (h : ∀ x ∈ st'.flatten, x ∈ st.flatten ∨ ¬ (x.name = n ∧ ∃ d, x.info = some (d, true))) : HoistOn n st := by
  obtain ⟨s, hs, x, hx, hx'⟩ := hh
  obtain ⟨s', hs', hx''⟩ := List.mem_flatten.mp ((h x (List.mem_flatten_of_mem hs hx)).resolve_right (not_not_intro hx'))
  exact ⟨s', hs', x, hx'', hx'⟩

theorem OnStack.mono {n : String} {st st' : Stack} (ho : OnStack n st) (h : ∀ x ∈ st.flatten, x ∈ st'.flatten) :
    OnStack n st' := by
  obtain ⟨s, hs, x, hx, hxn⟩ := ho
  obtain ⟨s', hs', hx'⟩ := List.mem_flatten.mp (h x (List.mem_flatten_of_mem hs hx))
  exact ⟨s', hs', x, hx', hxn⟩

theorem Inv.restack {σ σ' : St} (i : Inv σ) (hr : σ'.refs = σ.refs)
    (h : ∀ x ∈ σ'.stack.flatten, x ∈ σ.stack.flatten ∨ (x.info = none → x.name = "...") ∧ ∀ d, x.info ≠ some (d, true)) :
    Inv σ' := by
  have hh : ∀ n, HoistOn n σ'.stack → HoistOn n σ.stack := fun n hh =>
    hh.mono fun x hx => (h x hx).imp_right fun c hx' => hx'.2.elim c.2
  exact {
    bar := i.bar.mono fun x hx => (h x hx).imp_right (·.1)
    hoist := fun n hn h' => hr ▸ i.hoist n hn (hh n h')
    uok := hr ▸ i.uok
    noh := fun n hl => (i.noh n (hr ▸ hl)).imp (mt (hh n)) (hr ▸ ·)
    shape := hr ▸ i.shape }

theorem define_stack (σ : St) (e : Entry) (ne : σ.stack ≠ []) :
    ∃ hd tl, σ.stack = hd :: tl ∧ (σ.define e).stack = (e :: hd) :: tl ∧ (σ.define e).refs = σ.refs := by
  unfold St.define
  cases hs : σ.stack with
  | nil => exact absurd hs ne
  | cons hd tl => exact ⟨hd, tl, rfl, rfl, rfl⟩

theorem define_step (σ : St) (e : Entry) (ne : σ.stack ≠ [])
    (hbar : e.info = none → e.name = "...") (hnh : ∀ d, e.info ≠ some (d, true)) : Step σ (σ.define e) := by
  obtain ⟨hd, tl, e1, e2, e3⟩ := define_stack σ e ne
  have hf : (σ.define e).stack.flatten = e :: σ.stack.flatten := by rw [e2, e1]; rfl
  refine ⟨fun i => i.restack e3 ?_, fun n _ _ g => ⟨g.1.mono ?_, e3 ▸ g.2⟩⟩ <;> rw [hf]
  · exact List.forall_mem_cons.mpr ⟨Or.inr ⟨hbar, hnh⟩, fun _ => Or.inl⟩
  · exact fun _ => List.mem_cons_of_mem e

theorem open_step (σ : St) : Step σ σ.open :=
  ⟨fun i => i.restack rfl fun _ => Or.inl, fun _ _ _ g => ⟨g.1.mono fun _ => id, g.2⟩⟩

theorem close_inv (σ : St) (i : Inv σ) : Inv σ.close := by
  refine i.restack rfl fun _ hx => ?_
  obtain ⟨_, hs, h⟩ := List.mem_flatten.mp hx
  exact Or.inl (List.mem_flatten_of_mem (List.mem_of_mem_tail hs) h)

theorem fdepth_step (σ : St) (k : Nat) : Step σ { σ with fdepth := k } :=
  ⟨fun i => ⟨i.bar, i.hoist, i.uok, i.noh, i.shape⟩, fun _ _ _ g => g⟩

/-- `Inv` without `uok`, which fails between the read and the write of `function f … end`: the read of `f` may stay
    unresolved until the write hoists `f` -/
structure Base (σ : St) : Prop where
  bar : BarrierOK σ.stack
  hoist : ∀ n, n ≠ "..." → HoistOn n σ.stack → Resolved n σ.refs
  noh : ∀ n, LocalWrites n σ.refs → NoHoist n σ
  shape : RefShape σ.refs

theorem Inv.base {σ : St} (i : Inv σ) : Base σ := ⟨i.bar, i.hoist, i.noh, i.shape⟩

theorem Base.push {σ : St} (b : Base σ) (r : Ref) (hres : r.resolved = stackFind σ.stack r.name)
    (hshape : (r.decl = false → r.write = false → r.counted = r.expr) ∧
              (r.write = true → r.decl = false ∧ r.counted = (localOf r.resolved).isNone)) :
    Base { σ with refs := σ.refs ++ [r] } where
  bar := b.bar
  hoist n hn hh := forall_mem_push (b.hoist n hn hh) fun hrn _ _ =>
    hres ▸ hrn ▸ stackFind_ne_none σ.stack n b.bar hn hh.onStack
  noh n hl := by
    obtain ⟨a, c⟩ := b.noh n fun x hx => hl x (List.mem_append_left _ hx)
    exact ⟨a, forall_mem_push c fun hrn d hd => a (stackFind_hoisted σ.stack n d (hrn ▸ hres ▸ hd))⟩
  shape := forall_mem_push b.shape hshape

theorem Base.read {σ : St} (b : Base σ) (t : Tok) (counted root : Bool) : Base (σ.read t counted root) := by
  unfold St.read
  split
  · exact b
  · exact b.push _ rfl ⟨fun _ _ => rfl, fun h => by simp at h⟩

theorem Good.push {n : String} {σ : St} (g : Good n σ) (r : Ref)
    (h : r.name = n → r.decl = false → r.write = false → r.resolved ≠ none) :
    Good n { σ with refs := σ.refs ++ [r] } :=
  ⟨g.1, forall_mem_push g.2 h⟩

theorem push_step (σ : St) (r : Ref) (hres : r.resolved = stackFind σ.stack r.name)
    (hu : r.decl = false → r.write = false → r.expr = false → r.resolved ≠ none)
    (hshape : (r.decl = false → r.write = false → r.counted = r.expr) ∧
              (r.write = true → r.decl = false ∧ r.counted = (localOf r.resolved).isNone)) :
    Step σ { σ with refs := σ.refs ++ [r] } where
  inv i :=
    let b := i.base.push r hres hshape
    ⟨b.bar, b.hoist, forall_mem_push i.uok hu, b.noh, b.shape⟩
  good n hn i g := g.push r fun hrn _ _ => hres ▸ hrn ▸ stackFind_ne_none σ.stack n i.bar hn g.1

theorem read_step (σ : St) (t : Tok) (root : Bool := false) : Step σ (σ.read t true root) := by
  unfold St.read
  split
  · exact Step.refl σ
  -- a read entry has `expr = true` and `write = false`
  · exact push_step σ _ rfl (fun _ _ h => by simp at h) ⟨fun _ _ => rfl, fun h => by simp at h⟩

theorem logDecl_step (σ : St) (t : Tok) (name : String) : Step σ (σ.logDecl t name) :=
  -- a declaration entry has `decl = true` and `write = false`
  push_step σ _ rfl (fun h => by simp at h) ⟨fun h => by simp at h, fun h => by simp at h⟩

theorem declare_step (σ : St) (t : Tok) (name : String) (ne : σ.stack ≠ []) : Step σ (σ.declare t name) :=
  (logDecl_step σ t name).trans
    (define_step _ _ (by simpa [St.logDecl] using ne) (by simp) (by simp))

theorem logWrite_step (σ : St) (t : Tok) : Step σ (σ.logWrite t) :=
  -- a write entry has `write = true` and `decl = false`
  push_step σ _ rfl (fun _ h => by simp at h) ⟨fun _ h => by simp at h, fun _ => ⟨rfl, rfl⟩⟩

theorem logWrite_stack (σ : St) (t : Tok) : (σ.logWrite t).stack = σ.stack := rfl

/-- rewriting with this exposes the fields of a rewritten entry other than `resolved` -/
theorem rewrite_eq (name : String) (v : Nat × Bool) (r : Ref) :
    rewrite name v r = { r with resolved := (rewrite name v r).resolved } := by
  unfold rewrite; split <;> rfl
theorem rewrite_other (name : String) (v : Nat × Bool) (r : Ref) (h : r.name ≠ name) : rewrite name v r = r :=
  if_neg fun c => h c.1
theorem rewrite_writeRef (name : String) (v : Nat × Bool) (r : Ref) (h : r.write = true) : rewrite name v r = r :=
  if_neg fun c => by simp [h] at c
theorem rewrite_resolved (name : String) (v : Nat × Bool) (r : Ref)
    (h : r.resolved = none → r.name = name ∧ r.decl = false ∧ r.write = false) : (rewrite name v r).resolved ≠ none := by
  unfold rewrite; split
  · simp
  · rename_i c; exact fun h' => c ⟨(h h').1, h', (h h').2⟩

/-- the `none` branch of `St.hoist` (`hoist_eq`) -/
def hoisted (σ : St) (t : Tok) : St :=
  let σ' := σ.define { name := t.text, info := some (t.idx, true) }
  { σ' with refs := σ'.refs.map (rewrite t.text (t.idx, true)) }

theorem hoisted_facts (σ : St) (t : Tok) (ne : σ.stack ≠ []) :
    ∃ hd tl, σ.stack = hd :: tl ∧ (hoisted σ t).stack = ({ name := t.text, info := some (t.idx, true) } :: hd) :: tl ∧
      (hoisted σ t).refs = σ.refs.map (rewrite t.text (t.idx, true)) := by
  obtain ⟨hd, tl, e1, e2, e3⟩ := define_stack σ { name := t.text, info := some (t.idx, true) } ne
  exact ⟨hd, tl, e1, e2, congrArg (List.map _) e3⟩

theorem hoisted_fdepth (σ : St) (t : Tok) : (hoisted σ t).fdepth = σ.fdepth := by
  unfold hoisted St.define
  cases σ.stack <;> rfl

theorem hoist_eq (σ : St) (t : Tok) :
    σ.hoist t = match stackFind σ.stack t.text with
      | some _ => σ.logWrite t
      | none => hoisted (σ.logWrite t) t := rfl

section Hoisted
-- `σ'` stands for `hoisted σ t`, known through `hoisted_spec` only
variable {σ σ' : St} {t : Tok}
  (hs : σ'.stack.flatten = { name := t.text, info := some (t.idx, true) } :: σ.stack.flatten)
  (hr : σ'.refs = σ.refs.map (rewrite t.text (t.idx, true)))

include hr in
theorem hoisted_resolved : Resolved t.text σ'.refs := by
  rw [hr]
  refine List.forall_mem_map.mpr fun y _ => ?_
  rw [rewrite_eq]
  exact fun hn hd hw => rewrite_resolved _ _ y fun _ => ⟨hn, hd, hw⟩

include hr in
theorem hoisted_other {n : String} (hn : n ≠ t.text) {p : Ref → Prop} (h : ∀ x ∈ σ.refs, x.name = n → p x) :
    ∀ x ∈ σ'.refs, x.name = n → p x := by
  rw [hr]
  refine List.forall_mem_map.mpr fun y hy hyn => ?_
  rw [rewrite_eq] at hyn
  rw [rewrite_other _ _ y (hyn ▸ hn)]
  exact h y hy hyn

include hs hr in
theorem hoisted_good (n : String) (g : Good n σ) : Good n σ' := by
  refine ⟨g.1.mono (by rw [hs]; exact fun _ => List.mem_cons_of_mem _), ?_⟩
  by_cases hnt : n = t.text
  · exact hnt ▸ hoisted_resolved hr
  · exact hoisted_other hr hnt g.2

include hs hr in
/-- `hw`: the write just recorded met no local -/
theorem hoisted_inv (hw : ¬ LocalWrites t.text σ.refs) (b : Base σ)
    (hu : ∀ r ∈ σ.refs, r.decl = false → r.write = false → r.expr = false → r.resolved ≠ none ∨ r.name = t.text) :
    Inv σ' := by
  have hh : ∀ n, n ≠ t.text → HoistOn n σ'.stack → HoistOn n σ.stack := fun n hnt hh =>
    hh.mono (by rw [hs]; exact List.forall_mem_cons.mpr ⟨Or.inr fun c => hnt c.1.symm, fun _ => Or.inl⟩)
  have hlw : ∀ n, LocalWrites n σ'.refs → LocalWrites n σ.refs := fun n hl x hx hxw hxn =>
    hl x (hr ▸ rewrite_writeRef _ _ x hxw ▸ List.mem_map_of_mem hx) hxw hxn
  constructor
  case bar =>
    exact b.bar.mono (by rw [hs]; exact List.forall_mem_cons.mpr ⟨Or.inr fun c => by simp at c, fun _ => Or.inl⟩)
  case hoist =>
    intro n hn h'
    by_cases hnt : n = t.text
    · exact hnt ▸ hoisted_resolved hr
    · exact hoisted_other hr hnt (b.hoist n hn (hh n hnt h'))
  case uok =>
    rw [hr]
    refine List.forall_mem_map.mpr fun y hy => ?_
    rw [rewrite_eq]
    exact fun hd hw' he => rewrite_resolved _ _ y fun h0 => ⟨(hu y hy hd hw' he).resolve_left (· h0), hd, hw'⟩
  case noh =>
    intro n hl
    by_cases hnt : n = t.text
    · exact absurd (hlw _ (hnt ▸ hl)) hw
    · obtain ⟨a, c⟩ := b.noh n (hlw n hl)
      exact ⟨mt (hh n hnt) a, hoisted_other hr hnt c⟩
  case shape =>
    rw [hr]
    refine List.forall_mem_map.mpr fun y hy => ?_
    rw [rewrite_eq]
    exact ⟨(b.shape y hy).1, fun hw' => (rewrite_writeRef t.text (t.idx, true) y hw').symm ▸ (b.shape y hy).2 hw'⟩
end Hoisted

theorem hoisted_spec (σ : St) (t : Tok) (ne : σ.stack ≠ []) :
    (hoisted σ t).stack.flatten = { name := t.text, info := some (t.idx, true) } :: σ.stack.flatten ∧
      (hoisted σ t).refs = σ.refs.map (rewrite t.text (t.idx, true)) := by
  obtain ⟨hd, tl, e1, e2, e3⟩ := hoisted_facts σ t ne
  exact ⟨by rw [e2, e1]; rfl, e3⟩

/-- the hoisting branch of `write_name` + `try_hoist`.  `hu`: the only read outside expression positions that may still
    be unresolved is the one `function f … end` has just made of the name -/
theorem hoist_new (σ : St) (t : Tok) (ne : σ.stack ≠ []) (hf : stackFind σ.stack t.text = none) :
    (Base σ → (∀ r ∈ σ.refs, r.decl = false → r.write = false → r.expr = false → r.resolved ≠ none ∨ r.name = t.text) →
      Inv (σ.hoist t)) ∧ ∀ n, Good n σ → Good n (σ.hoist t) := by
  rw [hoist_eq, hf]
  obtain ⟨hs, hr⟩ := hoisted_spec (σ.logWrite t) t ne
  have hw : ¬ LocalWrites t.text (σ.logWrite t).refs := fun h => by
    have := h _ (List.mem_append_right _ (List.mem_singleton_self _)) rfl rfl
    simp only [hf] at this
    cases this
  exact ⟨fun b hu => hoisted_inv hs hr hw (b.push _ rfl ⟨fun _ h => by simp at h, fun _ => ⟨rfl, rfl⟩⟩)
      (forall_mem_push hu fun _ h => by simp at h),
    fun n g => hoisted_good hs hr n (g.push _ fun _ _ hw => by simp at hw)⟩

/-- `write_name` + `try_hoist` -/
theorem hoist_step (σ : St) (t : Tok) (ne : σ.stack ≠ []) : Step σ (σ.hoist t) := by
  cases hf : stackFind σ.stack t.text with
  | some v => rw [hoist_eq, hf]; exact logWrite_step σ t
  | none =>
    exact ⟨fun i => (hoist_new σ t ne hf).1 i.base fun x hx hd hw he => Or.inl (i.uok x hx hd hw he),
      fun n _ _ => (hoist_new σ t ne hf).2 n⟩

theorem hoist_good (σ : St) (t : Tok) (ne : σ.stack ≠ [])
    (hh : HoistOn t.text σ.stack → Resolved t.text σ.refs)
    (hl : localOf (stackFind σ.stack t.text) = none) : Good t.text (σ.hoist t) := by
  rw [hoist_eq]
  cases hf : stackFind σ.stack t.text with
  | none =>
    obtain ⟨hs, hr⟩ := hoisted_spec (σ.logWrite t) t ne
    obtain ⟨s, hs', he⟩ := List.mem_flatten.mp (hs ▸ List.mem_cons_self ..)
    exact ⟨⟨s, hs', _, he, rfl⟩, hoisted_resolved hr⟩
  | some v =>
    obtain ⟨d, _ | _⟩ := v
    · rw [hf] at hl; cases hl
    · have ho := stackFind_hoisted σ.stack t.text d hf
      exact Good.push ⟨ho.onStack, hh ho⟩ _ fun _ _ hw => by simp at hw

theorem readHoist_good (σ : St) (t : Tok) (ne : σ.stack ≠ []) (i : Inv σ) (hn : t.text ≠ "...")
    (hl : localOf (stackFind σ.stack t.text) = none) : Good t.text ((σ.read t false).hoist t) := by
  have hst : (σ.read t false).stack = σ.stack := by unfold St.read; split <;> rfl
  exact hoist_good _ t (hst ▸ ne) ((i.base.read t false false).hoist t.text hn) (hst ▸ hl)

/-- `function f … end`: a read of `f` outside expression positions, then the write -/
theorem readHoist_step (σ : St) (t : Tok) (ne : σ.stack ≠ []) : Step σ ((σ.read t false).hoist t) := by
  unfold St.read
  split
  · exact hoist_step σ t ne
  · cases hf : stackFind σ.stack t.text with
    | some v =>
      exact (push_step σ _ hf.symm (fun _ _ _ => by simp) ⟨fun _ _ => rfl, fun h => by simp at h⟩).trans
        (hoist_step _ t ne)
    | none =>
      let r : Ref := { tok := t.idx, name := t.text, resolved := none, counted := false, expr := false }
      have h := hoist_new { σ with refs := σ.refs ++ [r] } t ne hf
      refine ⟨fun i => h.1 ?_ ?_, fun n hn i g => h.2 n ?_⟩
      · exact i.base.push r hf.symm ⟨fun _ _ => rfl, fun h => by simp at h⟩
      · exact forall_mem_push (fun x hx hd hw he => Or.inl (i.uok x hx hd hw he)) fun _ _ _ => Or.inr rfl
      · exact g.push r fun (hrn : t.text = n) _ _ => absurd hf (hrn ▸ stackFind_ne_none σ.stack n i.bar hn g.1)

end Selene.Scope.Safe
