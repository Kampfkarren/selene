/-
`(Core.analyse b).log = Ordered.chunk b` (`analyse_eq`; method: DESIGN Appendix A).  `Rel` ties the scope stack to the
specification's environment: every name looks up to the same local, hoisted globals and `...` barriers counting as none.
Expression traversals keep `Pure` (stack and depth unchanged, log extended), statements `Grow` (only the innermost scope
changed); mutual structural recursions over the syntax tree.
-/
import Selene.Scope.Ordered
import Selene.Scope.Safe
import Selene.Scope.ListLemmas
namespace Selene.Scope.CoreProof
open Selene.Lua Selene.Scope.Spec Selene.Scope.Core Selene.Scope.Ordered
open Selene.Scope.Safe (Step)

set_option linter.unusedSectionVars false

/-- hoisted globals and barriers are not locals.  `Core.localOf` is the same function -/
def lb : Option (Nat × Bool) → Option Nat
  | some (d, false) => some d
  | _ => none

theorem localBinding_eq (r : Ref) : localBinding r = lb r.resolved := rfl

structure Rel (st : Stack) (fd : Nat) (inF : Bool) (env : Env) : Prop where
  ne : st ≠ []
  fd : fd = 0 ↔ inF = false
  env : ∀ n, lb (stackFind st n) = look env n

theorem stackFind_open (st : Stack) (n : String) : stackFind ([] :: st) n = stackFind st n := rfl

theorem stackFind_define (e : Entry) (hd : Scope) (tl : Stack) (n : String) :
    stackFind ((e :: hd) :: tl) n = if e.name = n then e.info else stackFind (hd :: tl) n := by
  by_cases h : e.name = n
  · simp [stackFind, scopeFind, h]
  · simp [stackFind, scopeFind, h]

theorem look_cons (env : Env) (name : String) (d : Option (Nat × DeclKind)) (n : String) :
    look ((name, d) :: env) n = if name = n then d.map (·.1) else look env n := by
  by_cases h : name = n
  · simp [look, Env.lookup, h]
  · simp [look, Env.lookup, h]

theorem look_bind (env : Env) (t : Tok) (name : String) (k : DeclKind) (n : String) :
    look (bindTok env t name k) n = if name = n then some t.idx else look env n := by
  unfold bindTok; rw [look_cons]; rfl

theorem Rel.define {hd : Scope} {tl : Stack} {fd : Nat} {inF : Bool} {env env' : Env} (e : Entry)
    (r : Rel (hd :: tl) fd inF env) (h : ∀ n, look env' n = if e.name = n then lb e.info else look env n) :
    Rel ((e :: hd) :: tl) fd inF env' :=
  ⟨List.cons_ne_nil _ _, r.fd, fun n => by rw [stackFind_define, apply_ite lb, r.env n, h]⟩

variable [NameFilter]

theorem log_push (σ : St) (r : Ref) :
    St.log { σ with refs := σ.refs ++ [r] } =
      σ.log ++ (if (r.counted && r.kept) = true then [r.ans] else []) :=
  map_filter_push σ.refs r _ _

theorem log_rewrite {σ σ' : St} {name : String} {d : Nat} (h : σ'.refs = σ.refs.map (rewrite name (d, true))) :
    σ'.log = σ.log := by
  have hp : (fun r => r.counted && r.kept) ∘ rewrite name (d, true) = fun r => r.counted && r.kept :=
    funext fun r => by simp only [Function.comp, rewrite]; split <;> rfl
  have ha (r : Ref) : (rewrite name (d, true) r).ans = r.ans := by
    unfold rewrite; split
    · rename_i h; simp [Ref.ans, localBinding, h.2.1, h.2.2.1, h.2.2.2]
    · rfl
  simp only [St.log, h, List.filter_map, List.map_map, hp]
  exact List.map_congr_left fun r _ => ha r

structure Pure (σ σ' : St) (out : List Ans) : Prop where
  stack : σ'.stack = σ.stack
  fd : σ'.fdepth = σ.fdepth
  ans : σ'.log = σ.log ++ out
  safe : Step σ σ'          -- the invariants of `Scope/Safe.lean` ride along the same induction

structure Grow (σ σ' : St) (out : List Ans) : Prop where
  stack : ∃ hd hd' tl, σ.stack = hd :: tl ∧ σ'.stack = hd' :: tl
  fd : σ'.fdepth = σ.fdepth
  ans : σ'.log = σ.log ++ out
  safe : Step σ σ'

theorem Pure.refl (σ : St) : Pure σ σ [] := ⟨rfl, rfl, (List.append_nil _).symm, Step.refl σ⟩

theorem Pure.trans {σ₁ σ₂ σ₃ : St} {o₁ o₂ : List Ans} (h₁ : Pure σ₁ σ₂ o₁) (h₂ : Pure σ₂ σ₃ o₂) :
    Pure σ₁ σ₃ (o₁ ++ o₂) :=
  ⟨h₂.stack.trans h₁.stack, h₂.fd.trans h₁.fd, by rw [h₂.ans, h₁.ans, List.append_assoc], h₁.safe.trans h₂.safe⟩

theorem Pure.rel {σ σ' : St} {o : List Ans} {inF : Bool} {env : Env} (h : Pure σ σ' o)
    (r : Rel σ.stack σ.fdepth inF env) : Rel σ'.stack σ'.fdepth inF env := by
  rw [h.stack, h.fd]; exact r

theorem Pure.grow {σ σ' : St} {o : List Ans} (h : Pure σ σ' o) (ne : σ.stack ≠ []) : Grow σ σ' o := by
  obtain ⟨hd, tl, hs⟩ := List.exists_cons_of_ne_nil ne
  exact ⟨⟨hd, hd, tl, hs, h.stack.trans hs⟩, h.fd, h.ans, h.safe⟩

theorem Grow.trans {σ₁ σ₂ σ₃ : St} {o₁ o₂ : List Ans} (h₁ : Grow σ₁ σ₂ o₁) (h₂ : Grow σ₂ σ₃ o₂) :
    Grow σ₁ σ₃ (o₁ ++ o₂) := by
  obtain ⟨hd, hd', tl, e1, e2⟩ := h₁.stack
  obtain ⟨_, hd2', _, e3, e4⟩ := h₂.stack
  cases e2.symm.trans e3
  exact ⟨⟨hd, hd2', tl, e1, e4⟩, h₂.fd.trans h₁.fd, by rw [h₂.ans, h₁.ans, List.append_assoc], h₁.safe.trans h₂.safe⟩

theorem Grow.closed {σ σ₁ σ₂ : St} {o₁ o : List Ans} {hd : Scope}
    (hopen : σ₁.stack = hd :: σ.stack) (hfd : σ₁.fdepth = σ.fdepth) (hans : σ₁.log = σ.log ++ o₁)
    (hsafe : Step σ σ₁) (h : Grow σ₁ σ₂ o) : Pure σ σ₂.close (o₁ ++ o) := by
  obtain ⟨_, _, _, e1, e2⟩ := h.stack
  cases hopen.symm.trans e1
  have hst : σ₂.close.stack = σ.stack := congrArg List.tail e2
  have s : Step σ σ₂ := hsafe.trans h.safe
  exact ⟨hst, h.fd.trans hfd, by rw [← List.append_assoc, ← hans]; exact h.ans,
    fun i => Safe.close_inv _ (s.inv i), fun n hn i g => ⟨hst ▸ g.1, (s.good n hn i g).2⟩⟩

theorem inScope {σ σ₂ : St} {o : List Ans} (g : Grow σ.open σ₂ o) : Pure σ σ₂.close o :=
  List.nil_append o ▸
    Grow.closed (σ := σ) (σ₁ := σ.open) (hd := []) rfl rfl (List.append_nil _).symm (Safe.open_step σ) g

def DescOK (f : St → St) (g : Bool → Env → List Ans) : Prop :=
  ∀ (σ : St) (inF : Bool) (env : Env), Rel σ.stack σ.fdepth inF env → Pure σ (f σ) (g inF env)

theorem DescOK.refl : DescOK (fun σ => σ) (fun _ _ => []) := fun σ _ _ _ => Pure.refl σ

theorem DescOK.comp {f f' : St → St} {g g' : Bool → Env → List Ans} (h₁ : DescOK f g) (h₂ : DescOK f' g') :
    DescOK (fun σ => f' (f σ)) (fun inF env => g inF env ++ g' inF env) :=
  fun σ inF env r => (h₁ σ inF env r).trans (h₂ _ inF env ((h₁ σ inF env r).rel r))

theorem DescOK.cast {f : St → St} {g g' : Bool → Env → List Ans} (h : DescOK f g)
    (e : ∀ inF env, g inF env = g' inF env) : DescOK f g' :=
  fun σ inF env r => e inF env ▸ h σ inF env r

/-- a statement-like traversal: only the innermost scope grows, the environment follows the specification -/
def BlockOK (f : St → St) (g : Bool → Env → List Ans × Env) : Prop :=
  ∀ (σ : St) (inF : Bool) (env : Env), Rel σ.stack σ.fdepth inF env →
    Grow σ (f σ) (g inF env).1 ∧ Rel (f σ).stack (f σ).fdepth inF (g inF env).2

theorem DescOK.block {f : St → St} {g : Bool → Env → List Ans} (h : DescOK f g) :
    BlockOK f (fun inF env => (g inF env, env)) :=
  fun σ inF env r => ⟨(h σ inF env r).grow r.ne, (h σ inF env r).rel r⟩

-- `o` and `e` apart: the steps stated with `∧` (`local_grow`, …) fit as they are
theorem BlockOK.comp {f f' : St → St} {o o' : Bool → Env → List Ans} {e e' : Bool → Env → Env}
    (h₁ : BlockOK f (fun inF env => (o inF env, e inF env)))
    (h₂ : BlockOK f' (fun inF env => (o' inF env, e' inF env))) :
    BlockOK (fun σ => f' (f σ)) (fun inF env => (o inF env ++ o' inF (e inF env), e' inF (e inF env))) :=
  fun σ inF env r =>
    have first := h₁ σ inF env r
    have second := h₂ (f σ) inF (e inF env) first.2
    ⟨first.1.trans second.1, second.2⟩

theorem BlockOK.scoped {f : St → St} {o : Bool → Env → List Ans} {e : Bool → Env → Env}
    (h : BlockOK f (fun inF env => (o inF env, e inF env))) : DescOK (fun σ => (f σ.open).close) o :=
  fun σ inF env r => inScope (h σ.open inF env ⟨List.cons_ne_nil _ _, r.fd, r.env⟩).1

theorem read_frame (σ : St) (t : Tok) (counted root : Bool) :
    (σ.read t counted root).stack = σ.stack ∧ (σ.read t counted root).fdepth = σ.fdepth := by
  unfold St.read; split <;> exact ⟨rfl, rfl⟩

theorem read_pure (σ : St) (t : Tok) {inF : Bool} {env : Env} (r : Rel σ.stack σ.fdepth inF env)
    (root : Bool := false) : Pure σ (σ.read t true root) (sRead inF env t root) := by
  refine ⟨(read_frame ..).1, (read_frame ..).2, ?_, Safe.read_step σ t root⟩
  unfold St.read sRead
  by_cases h : σ.fdepth = 0 ∧ t.text = "..."
  · rw [if_pos h, if_pos ⟨r.fd.mp h.1, h.2⟩, List.append_nil]
  · rw [if_neg h, if_neg fun hh => h ⟨r.fd.mpr hh.1, hh.2⟩, log_push]
    simp [Ref.ans, Ref.kept, localBinding_eq, r.env]

theorem logDecl_pure (σ : St) (t : Tok) (name : String) {inF : Bool} {env : Env}
    (r : Rel σ.stack σ.fdepth inF env) : Pure σ (σ.logDecl t name) (sDecl env t name) := by
  refine ⟨rfl, rfl, (log_push σ _).trans ?_, Safe.logDecl_step σ t name⟩
  simp [Ref.ans, Ref.kept, sDecl, localBinding_eq, r.env]

theorem define_rel (e : Entry) (d : Option (Nat × DeclKind)) (hbar : e.info = none → e.name = "...")
    (hnh : ∀ t, e.info ≠ some (t, true)) (hd : lb e.info = d.map (·.1)) :
    BlockOK (·.define e) (fun _ env => ([], (e.name, d) :: env)) := by
  intro σ inF env r
  obtain ⟨s, tl, hs, hst, hrefs⟩ := Safe.define_stack σ e r.ne
  have hfd : (σ.define e).fdepth = σ.fdepth := by unfold St.define; cases σ.stack <;> rfl
  refine ⟨⟨⟨s, e :: s, tl, hs, hst⟩, hfd, by simp [St.log, hrefs], Safe.define_step σ e r.ne hbar hnh⟩, ?_⟩
  rw [hst, hfd]
  exact (hs ▸ r).define e fun n => by rw [look_cons, hd]

theorem local_grow (σ : St) (t : Tok) (name : String) (k : DeclKind) {inF : Bool} {env : Env}
    (r : Rel σ.stack σ.fdepth inF env) :
    Grow σ (σ.declare t name) (sDecl env t name) ∧
    Rel (σ.declare t name).stack (σ.declare t name).fdepth inF (bindTok env t name k) := by
  obtain ⟨g, rg⟩ := BlockOK.comp (DescOK.block fun σ _ _ => logDecl_pure σ t name)
    (define_rel { name := name, info := some (t.idx, false) } (some (t.idx, k)) (by simp) (by simp) rfl) σ inF env r
  exact ⟨List.append_nil (sDecl env t name) ▸ g, rg⟩

/-- the `...` barrier that every function body puts up before its parameters -/
theorem barrier_grow (σ : St) {inF : Bool} {env : Env} (r : Rel σ.stack σ.fdepth inF env) :
    Grow σ (σ.define { name := "...", info := none }) [] ∧
    Rel (σ.define { name := "...", info := none }).stack
        (σ.define { name := "...", info := none }).fdepth inF (("...", none) :: env) :=
  define_rel { name := "...", info := none } none (by simp) (by simp) rfl σ inF env r

theorem logWrite_pure (σ : St) (t : Tok) {inF : Bool} {env : Env} (r : Rel σ.stack σ.fdepth inF env) :
    Pure σ (σ.logWrite t) (sAssign env t) := by
  refine ⟨rfl, rfl, (log_push σ _).trans ?_, Safe.logWrite_step σ t⟩
  have : localOf (stackFind σ.stack t.text) = look env t.text := r.env t.text
  simp [Ref.ans, Ref.kept, sAssign, this, Bool.and_comm]

/-- hoisting: a global definition is not a local binding, the environment is unchanged -/
theorem hoist_grow (σ : St) (t : Tok) {inF : Bool} {env : Env} (r : Rel σ.stack σ.fdepth inF env) :
    Grow σ (σ.hoist t) (sAssign env t) ∧ Rel (σ.hoist t).stack (σ.hoist t).fdepth inF env := by
  have p := logWrite_pure σ t r
  have hstep := Safe.hoist_step σ t r.ne
  rw [Safe.hoist_eq] at hstep ⊢
  cases hf : stackFind σ.stack t.text with
  | some v => exact ⟨p.grow r.ne, p.rel r⟩
  | none =>
    rw [hf] at hstep
    obtain ⟨hd, tl, e1, e2, e3⟩ := Safe.hoisted_facts (σ.logWrite t) t r.ne
    have hfd := Safe.hoisted_fdepth (σ.logWrite t) t
    refine ⟨⟨⟨hd, _, tl, e1, e2⟩, hfd, (log_rewrite e3).trans p.ans, hstep⟩, ?_⟩
    rw [e2, hfd]
    refine ((e1 : σ.stack = _) ▸ r).define _ fun n => ?_
    split
    · next h => rw [← h, ← r.env, hf]; rfl
    · rfl

/-- `function f … end`: the name is read (not an occurrence the specification counts), then written -/
theorem readHoist_grow (t : Tok) : BlockOK (fun σ => (σ.read t false).hoist t) (fun _ env => (sAssign env t, env)) := by
  intro σ inF env r
  obtain ⟨hs, hfd⟩ := read_frame σ t false false
  have hlog : (σ.read t false).log = σ.log := by
    unfold St.read
    split
    · rfl
    · rw [log_push]; exact List.append_nil _
  obtain ⟨g, rg⟩ := hoist_grow (σ.read t false) t (by rw [hs, hfd]; exact r)
  obtain ⟨hd, hd', tl, e1, e2⟩ := g.stack
  -- not two steps: the read alone breaks `Inv.uok` until the write hoists the name
  exact ⟨⟨⟨hd, hd', tl, hs.symm.trans e1, e2⟩, g.fd.trans hfd, by rw [g.ans, hlog], Safe.readHoist_step σ t r.ne⟩, rg⟩

/-! ### equation lemmas (`simp` cannot generate them for functions with a nested match) -/
theorem eagerFields_nil (σ : St) : eagerFields σ .nil = σ := rfl
theorem eagerFields_exprKey (σ : St) (sp k v rest) :
    eagerFields σ (.cons (.exprKey sp k v) rest) = eagerFields (eagerE (eagerE σ k) v) rest := rfl
theorem eagerFields_nameKey (σ : St) (sp k v rest) :
    eagerFields σ (.cons (.nameKey sp k v) rest) = eagerFields (eagerE σ v) rest := rfl
theorem eagerFields_noKey (σ : St) (v rest) :
    eagerFields σ (.cons (.noKey v) rest) = eagerFields (eagerE σ v) rest := rfl
theorem eagerFields_unsupported (σ : St) (sp rest) :
    eagerFields σ (.cons (.unsupported sp) rest) = eagerFields σ rest := rfl
theorem eFs_nil (inF env) : eFs inF env .nil = [] := rfl
theorem eFs_exprKey (inF env) (sp k v rest) :
    eFs inF env (.cons (.exprKey sp k v) rest) = (eE inF env k ++ eE inF env v) ++ eFs inF env rest := rfl
theorem eFs_nameKey (inF env) (sp k v rest) :
    eFs inF env (.cons (.nameKey sp k v) rest) = eE inF env v ++ eFs inF env rest := rfl
theorem eFs_noKey (inF env) (v rest) :
    eFs inF env (.cons (.noKey v) rest) = eE inF env v ++ eFs inF env rest := rfl
theorem eFs_unsupported (inF env) (sp rest) :
    eFs inF env (.cons (.unsupported sp) rest) = eFs inF env rest := rfl

section Eager
variable {inF : Bool} {env : Env}

mutual
theorem eagerE_pure (σ : St) (e : Expr) (r : Rel σ.stack σ.fdepth inF env) :
    Pure σ (eagerE σ e) (eE inF env e) := by
  cases e with
  | paren _ e => exact eagerE_pure σ e r
  | un _ _ e => exact eagerE_pure σ e r
  | bin _ l _ rr =>
    have h1 := eagerE_pure σ l r
    have h2 := eagerE_pure _ rr (h1.rel r)
    exact h1.trans h2
  | func _ _ _ => exact Pure.refl σ
  | call c => exact eagerC_pure σ c r
  | tbl _ fs => exact eagerFields_pure σ fs r
  | dots t => exact read_pure σ t r
  | var v => exact eagerV_pure σ v r
  | nil _ => exact Pure.refl σ
  | true_ _ => exact Pure.refl σ
  | false_ _ => exact Pure.refl σ
  | num _ => exact Pure.refl σ
  | str _ _ _ => exact Pure.refl σ
  | unsupported _ => exact Pure.refl σ
theorem eagerEs_pure (σ : St) (es : ExprList) (r : Rel σ.stack σ.fdepth inF env) :
    Pure σ (eagerEs σ es) (eEs inF env es) := by
  cases es with
  | nil => exact Pure.refl σ
  | cons e rest =>
    have h1 := eagerE_pure σ e r
    have h2 := eagerEs_pure _ rest (h1.rel r)
    exact h1.trans h2
theorem eagerC_pure (σ : St) (c : FCall) (r : Rel σ.stack σ.fdepth inF env) :
    Pure σ (eagerC σ c) (eC inF env c) := by
  cases c with
  | mk _ p ss =>
    have h1 := eagerP_pure σ p r
    have h2 := eagerSs_pure _ ss (h1.rel r)
    exact h1.trans h2
theorem eagerP_pure (σ : St) (p : Prefix) (r : Rel σ.stack σ.fdepth inF env) :
    Pure σ (eagerP σ p) (eP inF env p) := by
  cases p with
  | name t => exact read_pure σ t r
  | expr e => exact eagerE_pure σ e r
theorem eagerSs_pure (σ : St) (ss : SuffixList) (r : Rel σ.stack σ.fdepth inF env) :
    Pure σ (eagerSs σ ss) (eSs inF env ss) := by
  cases ss with
  | nil => exact Pure.refl σ
  | cons s rest =>
    have h1 := eagerS_pure σ s r
    have h2 := eagerSs_pure _ rest (h1.rel r)
    exact h1.trans h2
theorem eagerS_pure (σ : St) (s : Suffix) (r : Rel σ.stack σ.fdepth inF env) :
    Pure σ (eagerS σ s) (eS inF env s) := by
  cases s with
  | dot _ _ => exact Pure.refl σ
  | idx _ e => exact eagerE_pure σ e r
  | args _ a => exact eagerA_pure σ a r
  | meth _ _ a => exact eagerA_pure σ a r
  | unsupported _ => exact Pure.refl σ
theorem eagerA_pure (σ : St) (a : Args) (r : Rel σ.stack σ.fdepth inF env) :
    Pure σ (eagerA σ a) (eA inF env a) := by
  cases a with
  | parens _ es => exact eagerEs_pure σ es r
  | tbl _ fs => exact eagerFields_pure σ fs r
  | str _ _ _ => exact Pure.refl σ
theorem eagerFields_pure (σ : St) (fs : FieldList) (r : Rel σ.stack σ.fdepth inF env) :
    Pure σ (eagerFields σ fs) (eFs inF env fs) := by
  cases fs with
  | nil => rw [eagerFields_nil, eFs_nil]; exact Pure.refl σ
  | cons f rest =>
    cases f with
    | exprKey _ k v =>
      have h1 := eagerE_pure σ k r
      have h2 := eagerE_pure _ v (h1.rel r)
      have h3 := eagerFields_pure _ rest ((h1.trans h2).rel r)
      rw [eagerFields_exprKey, eFs_exprKey]
      exact (h1.trans h2).trans h3
    | nameKey _ _ v =>
      have h1 := eagerE_pure σ v r
      have h3 := eagerFields_pure _ rest (h1.rel r)
      rw [eagerFields_nameKey, eFs_nameKey]
      exact h1.trans h3
    | noKey v =>
      have h1 := eagerE_pure σ v r
      have h3 := eagerFields_pure _ rest (h1.rel r)
      rw [eagerFields_noKey, eFs_noKey]
      exact h1.trans h3
    | unsupported _ =>
      rw [eagerFields_unsupported, eFs_unsupported]
      exact eagerFields_pure σ rest r
theorem eagerV_pure (σ : St) (v : Var) (r : Rel σ.stack σ.fdepth inF env) :
    Pure σ (eagerV σ v) (eV inF env v) := by
  cases v with
  | name t => exact read_pure σ t r
  | expr _ p ss =>
    have h1 := eagerP_pure σ p r
    have h2 := eagerSs_pure _ ss (h1.rel r)
    exact h1.trans h2
end
end Eager

theorem eagerPT_pure {inF : Bool} {env : Env} (σ : St) (p : Prefix) (r : Rel σ.stack σ.fdepth inF env) :
    Pure σ (eagerPT σ p) (ePT inF env p) := by
  cases p with
  | name t => exact read_pure σ t r true
  | expr e => exact eagerE_pure σ e r

theorem eagerVT_pure {inF : Bool} {env : Env} (σ : St) (v : Var) (r : Rel σ.stack σ.fdepth inF env) :
    Pure σ (eagerVT σ v) (eVT inF env v) := by
  cases v with
  | name t => exact read_pure σ t r true
  | expr _ p ss =>
    have h1 := eagerPT_pure σ p r
    have h2 := eagerSs_pure _ ss (h1.rel r)
    exact h1.trans h2

mutual
theorem restE_pure {inF : Bool} {env : Env} (σ : St) (e : Expr) (r : Rel σ.stack σ.fdepth inF env) :
    Pure σ (restE σ e) (rE inF env e) := by
  cases e with
  | paren _ e => exact restE_pure σ e r
  | un _ _ e => exact restE_pure σ e r
  | bin _ l _ rr =>
    have h1 := restE_pure σ l r
    have h2 := restE_pure _ rr (h1.rel r)
    exact h1.trans h2
  | func _ _ _ => exact Pure.refl σ
  | call c => exact Pure.refl σ
  | tbl _ fs => exact restFields_pure σ fs r
  | dots t => exact read_pure σ t r
  | var v =>
    cases v with
    | name t => exact read_pure σ t r
    | expr _ p _ => exact restP_pure σ p r
  | nil _ => exact Pure.refl σ
  | true_ _ => exact Pure.refl σ
  | false_ _ => exact Pure.refl σ
  | num _ => exact Pure.refl σ
  | str _ _ _ => exact Pure.refl σ
  | unsupported _ => exact Pure.refl σ
theorem restP_pure {inF : Bool} {env : Env} (σ : St) (p : Prefix) (r : Rel σ.stack σ.fdepth inF env) :
    Pure σ (restP σ p) (rP inF env p) := by
  cases p with
  | name t => exact read_pure σ t r
  | expr e => exact restE_pure σ e r
theorem restF_pure {inF : Bool} {env : Env} (σ : St) (f : Field) (r : Rel σ.stack σ.fdepth inF env) :
    Pure σ (restF σ f) (rF inF env f) := by
  cases f with
  | exprKey _ k v =>
    have h1 := restE_pure σ k r
    have h2 := restE_pure _ v (h1.rel r)
    exact h1.trans h2
  | nameKey _ _ v => exact restE_pure σ v r
  | noKey v => exact restE_pure σ v r
  | unsupported _ => exact Pure.refl σ
theorem restFields_pure {inF : Bool} {env : Env} (σ : St) (fs : FieldList) (r : Rel σ.stack σ.fdepth inF env) :
    Pure σ (restFields σ fs) (rFs inF env fs) := by
  cases fs with
  | nil => exact Pure.refl σ
  | cons f rest =>
    have h1 := restF_pure σ f r
    have h2 := restFields_pure _ rest (h1.rel r)
    exact h1.trans h2
end

theorem defineAll_grow (k : DeclKind) (names : List Tok) :
    BlockOK (fun σ => defineAll σ names) (fun _ env => (sDeclAll env k names, bindAll env k names)) := by
  induction names with
  | nil => exact DescOK.refl.block
  | cons t rest ih => exact BlockOK.comp (fun σ _ _ => local_grow σ t t.text k) ih

theorem defineParams_grow (ps : List Param) (σ : St) (inF : Bool) (env : Env)
    (r : Rel σ.stack σ.fdepth inF env) :
    Grow σ (defineParams σ ps) (sDeclParams env ps) ∧
    Rel (defineParams σ ps).stack (defineParams σ ps).fdepth inF (bindParams env ps) := by
  revert σ inF env
  induction ps with
  | nil => exact DescOK.refl.block
  | cons p rest ih =>
    cases p with
    | name t => exact BlockOK.comp (fun σ _ _ => local_grow σ t t.text .param) ih
    | dots t =>
      exact BlockOK.comp
        (define_rel { name := "...", info := some (t.idx, false) } (some (t.idx, .varargParam)) (by simp) (by simp) rfl) ih

-- on `σ.close`: the visitor closes the scope of the previous branch only when it reaches the next one
def ElifOK (l : ElseIfList) : Prop :=
  ∀ (σ : St) (inF : Bool) (env : Env), Rel σ.close.stack σ.close.fdepth inF env →
    Pure σ.close (elseifs σ l).close (sElifs inF env l)

abbrev EOK (e : Expr) : Prop := DescOK (fun σ => descE σ e) (fun inF env => dE inF env e)
abbrev EsOK (es : ExprList) : Prop := DescOK (fun σ => descEs σ es) (fun inF env => dEs inF env es)
abbrev BOK (b : Block) : Prop := BlockOK (fun σ => block σ b) (fun inF env => sBlock inF env b)
abbrev BodyOK (body : FuncBody) : Prop := DescOK (fun σ => body_ σ body) (fun _ env => sBody env none body)
/-- the walk of an `until` condition -/
abbrev TOK (e : Expr) : Prop := DescOK (fun σ => topE σ e) (fun inF env => tE inF env e)
abbrev OEOK (e : OptExpr) : Prop := ∀ x, e = .some x → EOK x
abbrev VsOK (vs : VarList) : Prop := DescOK (fun σ => descVs σ vs) (fun inF env => dVs inF env vs)

theorem body_case (sp : Span) (params : List Param) (b : Block) (hb : BOK b) : BodyOK (.mk sp params b) := by
  intro σ inF env r
  -- `{ σ.open with fdepth := _ }` is `σ'.open`
  let σ' : St := { σ with fdepth := σ.fdepth + 1 }
  have h := ((BlockOK.comp (fun σ _ _ => barrier_grow σ) (defineParams_grow params)).comp hb).scoped σ' true env
    ⟨r.ne, by simp [σ'], r.env⟩
  exact ⟨h.stack, (congrArg (· - 1) h.fd).trans (Nat.add_sub_cancel ..), h.ans,
    ((Safe.fdepth_step σ _).trans h.safe).trans (Safe.fdepth_step _ _)⟩

theorem do_case (sp : Span) (b : Block) (hb : BOK b) :
    BlockOK (fun σ => stmt σ (.do_ sp b)) (fun inF env => sStmt inF env (.do_ sp b)) :=
  hb.scoped.block

theorem guarded (c : Expr) (b : Block) (hc : EOK c) (hb : BOK b) :
    DescOK (fun σ => (block (descE (eagerE σ c).open c) b).close)
      (fun inF env => eE inF env c ++ dE inF env c ++ (sBlock inF env b).1) :=
  (DescOK.comp (fun σ _ _ => eagerE_pure σ c) (hc.block.comp hb).scoped).cast fun _ _ => (List.append_assoc ..).symm

theorem repeat_case (sp : Span) (b : Block) (c : Expr) (hb : BOK b) (hc : TOK c) :
    BlockOK (fun σ => stmt σ (.repeat_ sp b c)) (fun inF env => sStmt inF env (.repeat_ sp b c)) :=
  ((hb.comp hc.block).comp (DescOK.block fun σ _ _ => restE_pure σ c)).scoped.block

theorem branches (c : Expr) (b : Block) (l : ElseIfList) (hc : EOK c) (hb : BOK b) (hl : ElifOK l) :
    DescOK (fun σ => (elseifs (block (descE (eagerE σ c).open c) b) l).close)
      (fun inF env => eE inF env c ++ dE inF env c ++ (sBlock inF env b).1 ++ sElifs inF env l) :=
  fun σ inF env r =>
    have h := guarded c b hc hb σ inF env r
    h.trans (hl _ inF env (h.rel r))

theorem if_case (sp : Span) (c : Expr) (b : Block) (elifs : ElseIfList) (els : OptBlock)
    (hc : EOK c) (hb : BOK b) (hel : ElifOK elifs) (hels : ∀ eb, els = .some eb → BOK eb) :
    BlockOK (fun σ => stmt σ (.if_ sp c b elifs els)) (fun inF env => sStmt inF env (.if_ sp c b elifs els)) := by
  cases els with
  | none => exact ((branches c b elifs hc hb hel).comp .refl).block
  | some eb => exact ((branches c b elifs hc hb hel).comp (hels eb rfl).scoped).block

theorem elif_case (sp : Span) (c : Expr) (b : Block) (rest : ElseIfList)
    (hc : EOK c) (hb : BOK b) (hrest : ElifOK rest) : ElifOK (.cons (.mk sp c b) rest) :=
  fun σ => branches c b rest hc hb hrest σ.close

theorem numFor_case (sp : Span) (v comma : Tok) (start stop : Expr) (step : OptExpr) (b : Block)
    (h1 : EOK start) (h2 : EOK stop) (h3 : OEOK step) (hb : BOK b) :
    BlockOK (fun σ => stmt σ (.numFor sp v comma start stop step b))
      (fun inF env => sStmt inF env (.numFor sp v comma start stop step b)) := by
  have eager := DescOK.comp (fun σ _ _ => eagerE_pure σ start) (fun σ _ _ => eagerE_pure σ stop)
  have closures := h1.comp h2
  -- `D`: the header's closures, with a step or without
  have loop {fD : St → St} {gD : Bool → Env → List Ans} (D : DescOK fD gD) :
      DescOK (fun σ => (block ((fD σ.open).local_ v).open b).close.close) (fun inF env =>
        gD inF env ++ sDecl env v v.text ++ (sBlock inF (bindTok env v v.text .loopVar) b).1) :=
    ((D.block.comp fun σ _ _ => local_grow σ v v.text .loopVar).comp hb.scoped.block).scoped
  -- `sStmt` lists the eager reads and what `loop` gives without brackets
  cases step with
  | none =>
    refine (((eager.comp .refl).comp (loop (closures.comp .refl))).cast fun _ _ => ?_).block
    simp only [← List.append_assoc]
  | some st =>
    have eager := eager.comp fun σ _ _ => eagerE_pure σ st
    have closures := closures.comp (h3 st rfl)
    refine ((eager.comp (loop closures)).cast fun _ _ => ?_).block
    simp only [← List.append_assoc]

theorem genFor_case (sp : Span) (names : List Tok) (es : ExprList) (b : Block) (hes : EsOK es) (hb : BOK b) :
    BlockOK (fun σ => stmt σ (.genFor sp names es b)) (fun inF env => sStmt inF env (.genFor sp names es b)) := by
  have eager : DescOK _ _ := fun σ _ _ => eagerEs_pure σ es
  have loop := ((hes.block.comp (defineAll_grow .loopVar names)).comp hb).scoped
  refine ((eager.comp loop).cast fun _ _ => ?_).block
  simp only [← List.append_assoc]

theorem localAssign_case (sp : Span) (names : List Tok) (es : ExprList) (hes : EsOK es) :
    BlockOK (fun σ => stmt σ (.localAssign sp names es)) (fun inF env => sStmt inF env (.localAssign sp names es)) :=
  (DescOK.comp (fun σ _ _ => eagerEs_pure σ es) hes).block.comp (defineAll_grow .local_ names)

theorem localFunc_case (sp : Span) (name : Tok) (body : FuncBody) (hbody : BodyOK body) :
    BlockOK (fun σ => stmt σ (.localFunc sp name body)) (fun inF env => sStmt inF env (.localFunc sp name body)) :=
  BlockOK.comp (fun σ _ _ => local_grow σ name name.text .localFunc) hbody.block.scoped.block

theorem sBody_self (env : Env) (m : Tok) (body : FuncBody) :
    sBody env (some m) body = sDecl env m "self" ++ sBody (bindTok env m "self" .self_) none body := by
  cases body; exact List.append_assoc _ _ _

theorem funcName_grow (base : Tok) (longer : Bool) :
    BlockOK (fun σ => if longer then σ.read base true true else (σ.read base false).hoist base)
      (fun inF env => (if longer = true then sRead inF env base true else sAssign env base, env)) := by
  cases longer
  · exact readHoist_grow base
  · exact DescOK.block fun σ _ _ r => read_pure σ base r true

theorem func_case (sp : Span) (name : FuncName) (body : FuncBody) (hbody : BodyOK body) :
    BlockOK (fun σ => stmt σ (.func sp name body)) (fun inF env => sStmt inF env (.func sp name body)) := by
  obtain ⟨nsp, names, method⟩ := name
  cases names with
  | nil => exact DescOK.refl.block
  | cons base more =>
    have h1 := funcName_grow base (!more.isEmpty || method.isSome)
    cases method with
    | none => exact h1.comp hbody.block
    | some m =>
      have hself := (BlockOK.comp (fun σ _ _ => local_grow σ m "self" .self_) hbody.block).scoped
      exact h1.comp (hself.cast fun _ env => (sBody_self env m body).symm).block

/-- the paired value, if there is one, is read first (`f`) -/
theorem assignTargets_cons (v : Var) (rest : VarList) (es : ExprList) :
    ∃ f g es', DescOK f g ∧
      (∀ σ, assignTargets σ (.cons v rest) es =
        match v with
          | .name n => assignTargets ((f σ).hoist n) rest es'
          | .expr _ _ _ => assignTargets (eagerVT (f σ) v) rest es') ∧
      ∀ inF env, sTargets inF env (.cons v rest) es =
        g inF env ++ (match v with
          | .name t => sAssign env t
          | .expr _ _ _ => eVT inF env v) ++ sTargets inF env rest es' := by
  cases es with
  | nil => exact ⟨fun σ => σ, fun _ _ => [], .nil, DescOK.refl, fun _ => by cases v <;> rfl, fun _ _ => rfl⟩
  | cons e es' =>
    exact ⟨(eagerE · e), (eE · · e), es', fun σ _ _ => eagerE_pure σ e, fun _ => by cases v <;> rfl, fun _ _ => rfl⟩

theorem assignTargets_grow (vars : VarList) (es : ExprList) (σ : St) (inF : Bool) (env : Env)
    (r : Rel σ.stack σ.fdepth inF env) :
    Grow σ (assignTargets σ vars es) (sTargets inF env vars es) ∧
    Rel (assignTargets σ vars es).stack (assignTargets σ vars es).fdepth inF env := by
  cases vars with
  | nil => exact DescOK.block (fun σ _ _ => eagerEs_pure σ es) σ inF env r
  | cons v rest =>
    obtain ⟨f, g, es', h, e₁, e₂⟩ := assignTargets_cons v rest es
    rw [e₁, e₂]
    cases v with
    | name n => exact (h.block.comp fun σ _ _ => hoist_grow σ n).comp (assignTargets_grow rest es') σ inF env r
    | expr vsp p ss =>
      exact (DescOK.block <| h.comp fun σ _ _ => eagerVT_pure σ (.expr vsp p ss)).comp (assignTargets_grow rest es')
        σ inF env r

theorem assign_case (sp : Span) (vars : VarList) (es : ExprList) (hvs : VsOK vars) (hes : EsOK es) :
    BlockOK (fun σ => stmt σ (.assign sp vars es)) (fun inF env => sStmt inF env (.assign sp vars es)) :=
  (BlockOK.comp (assignTargets_grow vars es) hvs.block).comp hes.block

theorem block_case (sp : Option Span) (stmts : StmtList) (last : LastStmt)
    (hs : BlockOK (fun σ => stmts_ σ stmts) (fun inF env => sStmts inF env stmts))
    (hl : ∀ rsp es, last = .ret rsp es → EsOK es) : BOK (.mk sp stmts last) := by
  cases last with
  | none => exact hs
  | brk t => exact hs
  | ret rsp es => exact (hs.comp (DescOK.block fun σ _ _ => eagerEs_pure σ es)).comp (hl rsp es rfl).block

mutual
theorem descE_ok (e : Expr) : EOK e := by
  cases e with
  | paren _ e => exact descE_ok e
  | un _ _ e => exact descE_ok e
  | bin _ l _ rr => exact (descE_ok l).comp (descE_ok rr)
  | func _ _ body => exact body_ok body
  | call c => exact descC_ok c
  | tbl _ fs => exact descFields_ok fs
  | var v => exact descV_ok v
  | nil _ => exact DescOK.refl
  | true_ _ => exact DescOK.refl
  | false_ _ => exact DescOK.refl
  | dots _ => exact DescOK.refl
  | num _ => exact DescOK.refl
  | str _ _ _ => exact DescOK.refl
  | unsupported _ => exact DescOK.refl
theorem descEs_ok (es : ExprList) : EsOK es := by
  cases es with
  | nil => exact DescOK.refl
  | cons e rest => exact (descE_ok e).comp (descEs_ok rest)
theorem descC_ok (c : FCall) : DescOK (fun σ => descC σ c) (fun inF env => dC inF env c) := by
  cases c with
  | mk _ p ss => exact (descP_ok p).comp (descSs_ok ss)
theorem descP_ok (p : Prefix) : DescOK (fun σ => descP σ p) (fun inF env => dP inF env p) := by
  cases p with
  | name _ => exact DescOK.refl
  | expr e => exact descE_ok e
theorem descSs_ok (ss : SuffixList) : DescOK (fun σ => descSs σ ss) (fun inF env => dSs inF env ss) := by
  cases ss with
  | nil => exact DescOK.refl
  | cons s rest => exact (descS_ok s).comp (descSs_ok rest)
theorem descS_ok (s : Suffix) : DescOK (fun σ => descS σ s) (fun inF env => dS inF env s) := by
  cases s with
  | dot _ _ => exact DescOK.refl
  | idx _ e => exact descE_ok e
  | args _ a => exact descA_ok a
  | meth _ _ a => exact descA_ok a
  | unsupported _ => exact DescOK.refl
theorem descA_ok (a : Args) : DescOK (fun σ => descA σ a) (fun inF env => dA inF env a) := by
  cases a with
  | parens _ es => exact descEs_ok es
  | tbl _ fs => exact descFields_ok fs
  | str _ _ _ => exact DescOK.refl
theorem descFields_ok (fs : FieldList) : DescOK (fun σ => descFields σ fs) (fun inF env => dFs inF env fs) := by
  cases fs with
  | nil => exact DescOK.refl
  | cons f rest =>
    cases f with
    | exprKey _ k v => exact ((descE_ok k).comp (descE_ok v)).comp (descFields_ok rest)
    | nameKey _ _ v => exact (descE_ok v).comp (descFields_ok rest)
    | noKey v => exact (descE_ok v).comp (descFields_ok rest)
    | unsupported _ =>
      exact descFields_ok rest
theorem descV_ok (v : Var) : DescOK (fun σ => descV σ v) (fun inF env => dV inF env v) := by
  cases v with
  | name _ => exact DescOK.refl
  | expr _ p ss => exact (descP_ok p).comp (descSs_ok ss)
theorem descVs_ok (vs : VarList) : VsOK vs := by
  cases vs with
  | nil => exact DescOK.refl
  | cons v rest => exact (descV_ok v).comp (descVs_ok rest)
theorem stmtSs_ok (ss : SuffixList) : DescOK (fun σ => stmtSs σ ss) (fun inF env => sSs inF env ss) := by
  cases ss with
  | nil => exact DescOK.refl
  | cons s rest =>
    exact (DescOK.comp (fun σ _ _ r => eagerS_pure σ s r) (descS_ok s)).comp (stmtSs_ok rest)
theorem topE_ok (e : Expr) : TOK e := by
  cases e with
  | paren _ e => exact topE_ok e
  | un _ _ e => exact topE_ok e
  | bin _ l _ rr => exact (topE_ok l).comp (topE_ok rr)
  | func _ _ body => exact body_ok body
  | call c =>
    cases c with
    | mk _ p ss =>
      exact (DescOK.comp (fun σ _ _ r => eagerP_pure σ p r) (descP_ok p)).comp (stmtSs_ok ss)
  | tbl _ fs => exact topFields_ok fs
  | var v =>
    cases v with
    | name _ => exact DescOK.refl
    | expr _ p ss => exact (topP_ok p).comp (stmtSs_ok ss)
  | nil _ => exact DescOK.refl
  | true_ _ => exact DescOK.refl
  | false_ _ => exact DescOK.refl
  | dots _ => exact DescOK.refl
  | num _ => exact DescOK.refl
  | str _ _ _ => exact DescOK.refl
  | unsupported _ => exact DescOK.refl
theorem topP_ok (p : Prefix) : DescOK (fun σ => topP σ p) (fun inF env => tP inF env p) := by
  cases p with
  | name _ => exact DescOK.refl
  | expr e => exact topE_ok e
theorem topF_ok (f : Field) : DescOK (fun σ => topF σ f) (fun inF env => tF inF env f) := by
  cases f with
  | exprKey _ k v => exact (topE_ok k).comp (topE_ok v)
  | nameKey _ _ v => exact topE_ok v
  | noKey v => exact topE_ok v
  | unsupported _ => exact DescOK.refl
theorem topFields_ok (fs : FieldList) : DescOK (fun σ => topFields σ fs) (fun inF env => tFs inF env fs) := by
  cases fs with
  | nil => exact DescOK.refl
  | cons f rest => exact (topF_ok f).comp (topFields_ok rest)
theorem body_ok (body : FuncBody) : BodyOK body := by
  cases body with
  | mk sp params b => exact body_case sp params b (block_ok b)
theorem block_ok (b : Block) : BOK b := by
  cases b with
  | mk sp stmts last =>
    refine block_case sp stmts last (stmts_ok stmts) ?_
    intro rsp es h
    -- by cases, not `rintro _ _ rfl`: the cast that leaves behind makes the structural-recursion check ten times dearer
    cases last with
    | ret rsp' es' =>
      injection h with h1 h2
      subst h2
      exact descEs_ok es'
    | none => cases h
    | brk _ => cases h
theorem stmts_ok (l : StmtList) : BlockOK (fun σ => stmts_ σ l) (fun inF env => sStmts inF env l) := by
  cases l with
  | nil => exact DescOK.refl.block
  | cons s rest => exact (stmt_ok s).comp (stmts_ok rest)
theorem elseifs_ok (l : ElseIfList) : ElifOK l := by
  cases l with
  | nil => exact fun σ _ _ _ => Pure.refl σ.close
  | cons e rest =>
    cases e with
    | mk sp c b => exact elif_case sp c b rest (descE_ok c) (block_ok b) (elseifs_ok rest)
theorem stmt_ok (s : Stmt) : BlockOK (fun σ => stmt σ s) (fun inF env => sStmt inF env s) := by
  cases s with
  | assign sp vars es => exact assign_case sp vars es (descVs_ok vars) (descEs_ok es)
  | localAssign sp names es => exact localAssign_case sp names es (descEs_ok es)
  | call c =>
    cases c with
    | mk sp p ss => exact ((DescOK.comp (fun σ _ _ => eagerP_pure σ p) (descP_ok p)).comp (stmtSs_ok ss)).block
  | do_ sp b => exact do_case sp b (block_ok b)
  | while_ _ c b => exact (guarded c b (descE_ok c) (block_ok b)).block
  | repeat_ sp b c => exact repeat_case sp b c (block_ok b) (topE_ok c)
  | if_ sp c b elifs els =>
    refine if_case sp c b elifs els (descE_ok c) (block_ok b) (elseifs_ok elifs) ?_
    intro eb h
    cases els with
    | some eb' => injection h with h1; subst h1; exact block_ok eb'
    | none => cases h
  | numFor sp v comma start stop step b =>
    refine numFor_case sp v comma start stop step b (descE_ok start) (descE_ok stop) ?_ (block_ok b)
    intro x h
    cases step with
    | some x' => injection h with h1; subst h1; exact descE_ok x'
    | none => cases h
  | genFor sp names es b => exact genFor_case sp names es b (descEs_ok es) (block_ok b)
  | func sp name body => exact func_case sp name body (body_ok body)
  | localFunc sp name body => exact localFunc_case sp name body (body_ok body)
  | unsupported _ => exact DescOK.refl.block
end

theorem init_rel : Rel ({} : St).stack ({} : St).fdepth false [] :=
  ⟨List.cons_ne_nil _ _, ⟨fun _ => rfl, fun _ => rfl⟩, fun _ => rfl⟩

/-- **The scope-stack machine computes the ordered specification**, for every chunk. -/
theorem analyse_eq (b : Block) : (analyse b).log = chunk b :=
  (block_ok b {} false [] init_rel).1.ans

theorem ans_readOf (r : Ref) :
    r.ans.readOf = if !r.decl && !r.write then some (r.tok, localBinding r) else none := by
  unfold Ref.ans; cases r.decl <;> cases r.write <;> cases r.root <;> rfl
theorem ans_declOf (r : Ref) : r.ans.declOf = if r.decl then some (r.tok, localBinding r) else none := by
  unfold Ref.ans; cases r.decl <;> cases r.write <;> cases r.root <;> rfl
theorem ans_assignOf (r : Ref) : r.ans.assignOf = if !r.decl && r.write then some r.tok else none := by
  unfold Ref.ans; cases r.decl <;> cases r.write <;> cases r.root <;> rfl
theorem ans_valueOf (r : Ref) :
    r.ans.valueOf = if !r.decl && !r.write && !r.root then some (r.tok, localBinding r) else none := by
  unfold Ref.ans; cases r.decl <;> cases r.write <;> cases r.root <;> rfl

theorem log_answers (σ : St) : σ.log.filterMap Ans.readOf = σ.answers :=
  filterMap_map_filter _ _ _ _ _ (fun r => by rw [ans_readOf]; cases r.counted && r.kept <;> rfl) _

theorem log_shadows (σ : St) : σ.log.filterMap Ans.declOf = σ.shadows :=
  filterMap_map_filter _ _ _ _ _ (fun r => by rw [ans_declOf]; cases r.counted && r.kept <;> rfl) _

theorem log_globalAssigns (σ : St) : σ.log.filterMap Ans.assignOf = σ.globalAssigns :=
  filterMap_map_filter _ _ _ _ _ (fun r => by rw [ans_assignOf]; cases r.counted && r.kept <;> rfl) _

theorem log_valueUses (σ : St) : σ.log.filterMap Ans.valueOf = σ.valueUses :=
  filterMap_map_filter _ _ _ _ _ (fun r => by rw [ans_valueOf]; cases r.counted && r.kept <;> rfl) _

theorem kept_of_read {r : Ref} (hd : r.decl = false) (hw : r.write = false) : r.kept = NameFilter.read r.name := by
  simp [Ref.kept, hd, hw]

theorem kept_of_write {r : Ref} (hd : r.decl = false) (hw : r.write = true) : r.kept = NameFilter.assign r.name := by
  simp [Ref.kept, hd, hw]

theorem mem_answers (σ : St) (t : Nat) (d : Option Nat) :
    (t, d) ∈ σ.answers ↔ ∃ r ∈ σ.refs, r.counted = true ∧ r.kept = true ∧ r.decl = false ∧ r.write = false ∧
      r.tok = t ∧ localBinding r = d := by
  simp only [St.answers, List.mem_map, List.mem_filter, Prod.mk.injEq, Bool.and_eq_true, Bool.not_eq_true', and_assoc]

theorem mem_globalAssigns (σ : St) (t : Nat) :
    t ∈ σ.globalAssigns ↔ ∃ r ∈ σ.refs, r.counted = true ∧ r.kept = true ∧ r.decl = false ∧ r.write = true ∧ r.tok = t := by
  simp only [St.globalAssigns, List.mem_map, List.mem_filter, Bool.and_eq_true, Bool.not_eq_true', and_assoc]

omit [NameFilter] in
theorem mem_undefinedReports (hasFields : String → Bool) (σ : St) (t : Nat) :
    t ∈ undefinedReports hasFields σ ↔ ∃ r ∈ σ.refs, r.decl = false ∧ r.write = false ∧ r.resolved = none ∧
      hasFields r.name = false ∧ r.tok = t := by
  simp only [undefinedReports, List.mem_map, List.mem_filter, Bool.and_eq_true, Bool.not_eq_true',
    Option.isNone_iff_eq_none, and_assoc]

end Selene.Scope.CoreProof
