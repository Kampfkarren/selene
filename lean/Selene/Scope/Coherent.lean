/-
For every chunk whose reference tokens are pairwise distinct: `firstRefCoherent` holds, and `undefined_variable`
over the machine's log reports no token twice.  Both are read off one fact about the log's entries (`analyse_reads`).
-/
import Selene.Scope.TokTraverse
namespace Selene.Scope.Core
open Selene.Lua

/-- the reference tokens of a chunk, in the order the machine reaches them: every identifier in an expression
position, every plain-name assignment target, the base name of every `function name…` statement, every `...` -/
def refTokens (b : Block) : List Nat := dtBlock b

theorem analyse_reads (b : Block) (h : (refTokens b).Nodup) :
    (analyse b).refs.Pairwise fun a c => a.decl = false → c.decl = false → c.write = false → a.tok ≠ c.tok := by
  obtain ⟨N, h1, h2, _⟩ := block_ext b {} h
  have hne : NoEarlier (analyse b).tokLog := by rw [analyse, h1]; exact h2
  exact (List.pairwise_map.mp (noEarlier_iff.mp hne)).imp fun hac had hcd hcw => hac (Ref.k_read hcd hcw) (Ref.k_ne_decl had)

theorem refAt_read {σ : St} (hp : σ.refs.Pairwise fun a c => a.decl = false → c.decl = false → c.write = false → a.tok ≠ c.tok)
    {r : Ref} (hr : r ∈ σ.refs) (hd : r.decl = false) (hw : r.write = false) : σ.refAt r.tok = some r := by
  obtain ⟨pre, post, e⟩ := List.append_of_mem hr
  refine List.find?_eq_some_iff_append.mpr ⟨by simp [hd], pre, post, e, fun a ha => ?_⟩
  have := (List.pairwise_append.mp (e ▸ hp)).2.2 a ha r (.head _)
  cases had : a.decl with
  | true => simp
  | false => simpa using this had hd hw

/-- **every chunk with pairwise distinct reference tokens is coherent**: each read agrees, on being resolved,
with the first reference recorded at its token -/
theorem analyse_firstRefCoherent (b : Block) (h : (refTokens b).Nodup) : (analyse b).firstRefCoherent = true := by
  refine List.all_eq_true.mpr fun r hr => ?_
  cases hd : r.decl with
  | true => rfl
  | false =>
    cases hw : r.write with
    | true => rfl
    | false => simp [St.resolvedAt, refAt_read (analyse_reads b h) hr hd hw]

/-- **`undefined_variable` over the machine's log reports no token twice** -/
theorem undefinedReports_nodup (hasFields : String → Bool) (b : Block) (h : (refTokens b).Nodup) :
    (undefinedReports hasFields (analyse b)).Nodup := by
  unfold undefinedReports
  rw [List.Nodup, List.pairwise_map]
  refine ((analyse_reads b h).filter _).imp_of_mem ?_
  intro a c ha hc hR
  simp only [List.mem_filter, Bool.and_eq_true, Bool.not_eq_true', Option.isNone_iff_eq_none, and_assoc] at ha hc
  exact hR ha.2.1 hc.2.1 hc.2.2.1

end Selene.Scope.Core
