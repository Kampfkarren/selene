/-
Globals the file assigns in its outermost block: once such a statement has run, no read of the name is left unresolved,
neither the earlier ones (rewritten by `try_hoist`) nor any later one (the hoisted entry stays in the outermost scope,
which is never closed).
-/
import Selene.Scope.CoreProof
namespace Selene.Scope.TopProof
open Selene.Lua Selene.Scope.Spec Selene.Scope.Core Selene.Scope.Ordered Selene.Scope.CoreProof
open Selene.Scope.Safe (Step Inv Good)

def varNames : VarList → List String
  | .nil => []
  | .cons (.name t) rest => t.text :: varNames rest
  | .cons (.expr _ _ _) rest => varNames rest

/-- names a statement assigns as plain names: targets `n = …`, and `function n … end` -/
def plainTargets : Stmt → List String
  | .assign _ vars _ => varNames vars
  | .func _ name _ =>
    match name.names with
    | [base] => if name.method.isSome then [] else [base.text]
    | _ => []
  | _ => []

/-- the environment after a statement of a block (only `local` statements extend it) -/
def envAfter (env : Env) : Stmt → Env
  | .localAssign _ names _ => bindAll env .local_ names
  | .localFunc _ name _ => bindTok env name name.text .localFunc
  | _ => env

/-- the globals the statements of a block assign: plain-name targets whose name denotes no local
    there (`...` is no assignable name) -/
def topGlobalsFrom (env : Env) : StmtList → List String
  | .nil => []
  | .cons s rest =>
    (plainTargets s).filter (fun n => (look env n).isNone && n != "...") ++ topGlobalsFrom (envAfter env s) rest

/-- **the globals the file assigns or defines with `function name` in its outermost block** -/
def topGlobals : Block → List String
  | .mk _ stmts _ => topGlobalsFrom [] stmts

-- `Inv` and `Good` do not mention the name filter, but `stmt_ok` / `block_ok` also speak of the filtered log: any instance
-- does (`Props/C01.lean` passes `NameFilter.all`)
set_option linter.unusedSectionVars false
variable [NameFilter]

theorem envAfter_eq (inF : Bool) (env : Env) (s : Stmt) : (sStmt inF env s).2 = envAfter env s := by
  cases s with
  | func _ name _ =>
    obtain ⟨_, names, _⟩ := name
    cases names <;> rfl
  | call c => cases c; rfl
  | _ => rfl

theorem assignTargets_establish (vars : VarList) (es : ExprList) (σ : St) (inF : Bool) (env : Env)
    (r : Rel σ.stack σ.fdepth inF env) (i : Inv σ) (n : String) (hn : n ≠ "...")
    (hmem : n ∈ varNames vars) (hl : look env n = none) : Good n (assignTargets σ vars es) := by
  cases vars with
  | nil => cases hmem
  | cons v rest =>
    obtain ⟨f, _, es', h, e₁, _⟩ := assignTargets_cons v rest es
    have r1 := (h σ inF env r).rel r
    have i1 := (h σ inF env r).safe.inv i
    rw [e₁]
    cases v with
    | name t =>
      obtain ⟨g, rg⟩ := hoist_grow _ t r1
      by_cases ht : t.text = n
      · subst ht
        obtain ⟨g2, _⟩ := assignTargets_grow rest es' _ inF env rg
        exact g2.safe.good t.text hn (g.safe.inv i1)
          (Safe.hoist_good _ t r1.ne (i1.hoist t.text hn) ((r1.env t.text).trans hl))
      · exact assignTargets_establish rest es' _ inF env rg (g.safe.inv i1) n hn
          ((List.mem_cons.mp hmem).resolve_left (Ne.symm ht)) hl
    | expr vsp p ss =>
      have hv := eagerVT_pure _ (.expr vsp p ss) r1
      exact assignTargets_establish rest es' _ inF env (hv.rel r1) (hv.safe.inv i1) n hn hmem hl

theorem stmt_establish (s : Stmt) (σ : St) (inF : Bool) (env : Env)
    (r : Rel σ.stack σ.fdepth inF env) (i : Inv σ) (n : String) (hn : n ≠ "...")
    (hmem : n ∈ plainTargets s) (hl : look env n = none) : Good n (stmt σ s) := by
  cases s with
  | assign sp vars es =>
    obtain ⟨g, rg⟩ := assignTargets_grow vars es σ inF env r
    have d := (descVs_ok vars).comp (descEs_ok es) _ inF env rg
    exact d.safe.good n hn (g.safe.inv i) (assignTargets_establish vars es σ inF env r i n hn hmem hl)
  | func sp name body =>
    obtain ⟨nsp, names, method⟩ := name
    cases names with
    | nil => cases hmem
    | cons base more =>
      cases more with
      | cons _ _ => cases hmem
      | nil =>
        cases method with
        | some m => cases hmem
        | none =>
          obtain rfl : n = base.text := List.mem_singleton.mp hmem
          obtain ⟨g, rg⟩ := readHoist_grow base σ inF env r
          have hg := Safe.readHoist_good σ base r.ne i hn ((r.env base.text).trans hl)
          exact (body_ok body _ inF env rg).safe.good base.text hn (g.safe.inv i) hg
  | _ => exact absurd hmem List.not_mem_nil

theorem stmts_establish (l : StmtList) (σ : St) (inF : Bool) (env : Env)
    (r : Rel σ.stack σ.fdepth inF env) (i : Inv σ) (n : String) (h : n ∈ topGlobalsFrom env l) :
    n ≠ "..." ∧ Good n (stmts_ σ l) := by
  cases l with
  | nil => cases h
  | cons s rest =>
    obtain ⟨g, rg⟩ := stmt_ok s σ inF env r
    rw [envAfter_eq] at rg
    rcases List.mem_append.mp h with h | h
    · obtain ⟨hm, hp⟩ := List.mem_filter.mp h
      obtain ⟨hl, hne⟩ := Bool.and_eq_true_iff.mp hp
      have hn := bne_iff_ne.mp hne
      exact ⟨hn, (stmts_ok rest _ inF _ rg).1.safe.good n hn (g.safe.inv i)
        (stmt_establish s σ inF env r i n hn hm (Option.isNone_iff_eq_none.mp hl))⟩
    · exact stmts_establish rest _ inF _ rg (g.safe.inv i) n h

theorem stmts_top (l : StmtList) (σ : St) (inF : Bool) (env : Env)
    (r : Rel σ.stack σ.fdepth inF env) (i : Inv σ) (n : String) (hn : n ≠ "...")
    (h : Good n σ ∨ n ∈ topGlobalsFrom env l) : Good n (stmts_ σ l) :=
  h.elim ((stmts_ok l σ inF env r).1.safe.good n hn i) fun h => (stmts_establish l σ inF env r i n h).2

theorem init_inv : Inv ({} : St) := by
  refine ⟨List.forall_mem_singleton.mpr (List.forall_mem_nil _), fun _ _ _ => List.forall_mem_nil _,
    List.forall_mem_nil _, fun _ _ => ⟨?_, List.forall_mem_nil _⟩, List.forall_mem_nil _⟩
  rintro ⟨s, hs, e, he, _⟩
  cases List.mem_singleton.mp hs
  cases he

theorem analyse_inv (b : Block) : Inv (analyse b) :=
  (block_ok b {} false [] init_rel).1.safe.inv init_inv

/-- **a global the file assigns in its outermost block has no unresolved read**, anywhere in the file -/
theorem analyse_good (b : Block) (n : String) (h : n ∈ topGlobals b) : Good n (analyse b) := by
  cases b with
  | mk sp stmts last =>
    obtain ⟨hn, hs⟩ := stmts_establish stmts {} false [] init_rel init_inv n h
    obtain ⟨g, rg⟩ := stmts_ok stmts {} false [] init_rel
    cases last with
    | ret rsp es =>
      exact (DescOK.comp (fun σ _ _ => eagerEs_pure σ es) (descEs_ok es) _ false _ rg).safe.good n hn
        (g.safe.inv init_inv) hs
    | _ => exact hs

end Selene.Scope.TopProof
