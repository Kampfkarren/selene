/-
`Spec.resolve` (Lua's scoping rules, source order, `Out` accumulator) and `Ordered.chunk` (visitor order, pure) give the
same answers, each equally often, so one list is a permutation of the other (`resolve_perm`).  Every resolver function
adds to the log of its accumulator, as a multiset, what its `Ordered` counterparts list; `count_seq` and its variants do
the arithmetic of consecutive steps once.
-/
import Selene.Scope.Ordered
import Selene.Scope.ListLemmas
namespace Selene.Scope.SpecProof
open Selene.Lua Selene.Scope.Spec Selene.Scope.Ordered
open Selene.Scope.Core (Ans)

/-- the occurrences the resolution property speaks about: identifier reads (not plain assignment
    targets), `...` of the main chunk excluded -/
def counted (oc : Occ) : Bool := oc.kind != .target && !(oc.name == "..." && !oc.inFunction)

/-- a plain-name assignment target (or `function name`) that assigns a global: the name denotes no local there -/
def assignsGlobal (oc : Occ) : Bool := oc.kind == .target && oc.binding.isNone

set_option linter.unusedSectionVars false
variable [Core.NameFilter]

/-- the declarations the shadowing property speaks about (`...` is no declaration of interest, nor
    are names the filter drops), each with the local declaration its name denoted just before -/
def shadows (o : Out) : List (Nat × Option Nat) :=
  (o.decls.filter fun d => d.kind != .varargParam && Core.NameFilter.keep d.name).map fun d => (d.tok, d.visibleSameName.map (·.1))

def reads (o : Out) : List (Nat × Option Nat) :=
  (o.occs.filter fun oc => counted oc && Core.NameFilter.read oc.name).map fun oc => (oc.tok, oc.binding.map (·.1))

/-- tokens of the assignment targets that assign a global -/
def globalAssigns (o : Out) : List Nat :=
  (o.occs.filter fun oc => assignsGlobal oc && Core.NameFilter.assign oc.name).map (·.tok)

/-- occurrences that use the value of the name: expression positions other than the root of an indexed
    assignment target -/
def valueUses (o : Out) : List (Nat × Option Nat) :=
  (o.occs.filter fun oc => counted oc && Core.NameFilter.read oc.name && oc.kind == .value).map fun oc => (oc.tok, oc.binding.map (·.1))

def occAns (oc : Occ) : Ans :=
  if oc.kind == .indexedTarget then .root oc.tok (oc.binding.map (·.1)) else .read oc.tok (oc.binding.map (·.1))

def readsOf (o : Out) : List Ans :=
  (o.occs.filter fun oc => counted oc && Core.NameFilter.read oc.name).map occAns
def assignsOf (o : Out) : List Ans :=
  (o.occs.filter fun oc => assignsGlobal oc && Core.NameFilter.assign oc.name).map fun oc => .gassign oc.tok
def declsOf (o : Out) : List Ans :=
  (o.decls.filter fun d => d.kind != .varargParam && Core.NameFilter.keep d.name).map fun d => .decl d.tok (d.visibleSameName.map (·.1))

/-- everything the resolver answers: reads, declarations and global assignments -/
def log (o : Out) : List Ans := readsOf o ++ declsOf o ++ assignsOf o

variable (a : Ans)

theorem log_pushOcc (o : Out) (oc : Occ) {L : List Ans}
    (h : (if counted oc && Core.NameFilter.read oc.name then [occAns oc] else []) ++
      (if assignsGlobal oc && Core.NameFilter.assign oc.name then [Ans.gassign oc.tok] else []) = L) :
    (log { o with occs := o.occs ++ [oc] }).count a = (log o).count a + L.count a := by
  subst h
  simp +arith only [log, readsOf, declsOf, assignsOf, map_filter_push, List.count_append]

theorem log_pushDecl (o : Out) (d : Decl) {D : List Ans}
    (hD : (if d.kind != .varargParam && Core.NameFilter.keep d.name then
      [Ans.decl d.tok (d.visibleSameName.map (·.1))] else []) = D) :
    (log { o with decls := o.decls ++ [d] }).count a = (log o).count a + D.count a := by
  subst hD
  simp +arith only [log, readsOf, declsOf, assignsOf, map_filter_push, List.count_append]

theorem log_occ (o : Out) (c : Ctx) (env : Env) (t : Tok) (k : OccKind) (hk : k ≠ .target) :
    (log (o.occ c env t k)).count a = (log o).count a + (sRead c.inFunction env t (k == .indexedTarget)).count a := by
  refine log_pushOcc a o ⟨t.idx, t.text, k, env.lookup t.text, c.inFunction⟩ ?_
  have hc : counted ⟨t.idx, t.text, k, env.lookup t.text, c.inFunction⟩ =
      !decide (c.inFunction = false ∧ t.text = "...") := by
    rw [Bool.decide_and, Bool.decide_eq_false, Bool.and_comm, counted, bne_iff_ne.mpr hk]; rfl
  rw [hc, sRead, assignsGlobal, beq_eq_false_iff_ne.mpr hk]
  by_cases hm : c.inFunction = false ∧ t.text = "..."
  · rw [if_pos hm, decide_eq_true hm]; rfl
  · rw [if_neg hm, decide_eq_false hm]; exact List.append_nil _

theorem log_occ_target (o : Out) (c : Ctx) (env : Env) (t : Tok) :
    (log (o.occ c env t .target)).count a = (log o).count a + (sAssign env t).count a := by
  refine log_pushOcc a o ⟨t.idx, t.text, .target, env.lookup t.text, c.inFunction⟩ ?_
  simp [sAssign, look, counted, assignsGlobal, Bool.and_comm]

theorem log_declare (o : Out) (env : Env) (t : Tok) (name : String) (k : DeclKind) (acc : List Nat)
    (hk : k ≠ .varargParam) :
    (log (declare o env t name k acc).1).count a = (log o).count a + (sDecl env t name).count a :=
  log_pushDecl a o _ (by simp only [bne_iff_ne.mpr hk, Bool.true_and]; rfl)

theorem count_nil {a : Ans} (x : Nat) : x = x + ([] : List Ans).count a := rfl

theorem count_nil₂ {a : Ans} (x : Nat) : x = x + ([] : List Ans).count a + ([] : List Ans).count a := rfl

theorem count_seq₂ {a : Ans} {x y z : Nat} {E₁ D₁ E₂ D₂ : List Ans}
    (h₁ : y = x + E₁.count a + D₁.count a) (h₂ : z = y + E₂.count a + D₂.count a) :
    z = x + (E₁ ++ E₂).count a + (D₁ ++ D₂).count a := by
  simp +arith only [h₂, h₁, List.count_append]

theorem count_seq {a : Ans} {x y z : Nat} {L₁ L₂ : List Ans}
    (h₁ : y = x + L₁.count a) (h₂ : z = y + L₂.count a) : z = x + (L₁ ++ L₂).count a := by
  simp +arith only [h₂, h₁, List.count_append]

theorem count_seq₁₂ {a : Ans} {x y z : Nat} {L E D : List Ans}
    (h₁ : y = x + L.count a) (h₂ : z = y + E.count a + D.count a) : z = x + (L ++ E ++ D).count a := by
  simp +arith only [h₂, h₁, List.count_append]

theorem count_mid {a : Ans} {H T S E T' : List Ans} (h : S.count a = E.count a + T'.count a) :
    (H ++ T ++ S).count a = (H ++ E).count a + (T ++ T').count a := by
  simp +arith only [h, List.count_append]

theorem count_seq₄ {a : Ans} {T₁ R₁ E₁ D₁ T₂ R₂ E₂ D₂ : List Ans}
    (h₁ : T₁.count a + R₁.count a = E₁.count a + D₁.count a)
    (h₂ : T₂.count a + R₂.count a = E₂.count a + D₂.count a) :
    (T₁ ++ T₂).count a + (R₁ ++ R₂).count a = (E₁ ++ E₂).count a + (D₁ ++ D₂).count a := by
  simp only [List.count_append]
  rw [Nat.add_add_add_comm, h₁, h₂, Nat.add_add_add_comm]

theorem count_as {a : Ans} {y z : Nat} {E D T R : List Ans} (h : z = y + E.count a + D.count a)
    (e : T.count a + R.count a = E.count a + D.count a) : z = y + T.count a + R.count a := by
  simp +arith only [h, ← e]

theorem count_as₁ {a : Ans} {y z : Nat} {E D S : List Ans} (h : z = y + E.count a + D.count a)
    (e : S.count a = E.count a + D.count a) : z = y + S.count a :=
  count_as (R := []) h e

theorem count_join {a : Ans} {x y : Nat} {E D : List Ans} (h : y = x + E.count a + D.count a) :
    y = x + (E ++ D).count a :=
  count_seq₁₂ (L := []) rfl h

theorem declare_env (o : Out) (env : Env) (t : Tok) (name : String) (k : DeclKind) (acc : List Nat) :
    (declare o env t name k acc).2 = bindTok env t name k := rfl

theorem declareAll_spec (k : DeclKind) (hk : k ≠ .varargParam) (names : List Tok) (o : Out) (env : Env) (acc : List Nat) :
    (log (declareAll o env k names acc).1).count a = (log o).count a + (sDeclAll env k names).count a ∧
    (declareAll o env k names acc).2 = bindAll env k names := by
  induction names generalizing o env acc with
  | nil => exact ⟨count_nil _, rfl⟩
  | cons t rest ih =>
    obtain ⟨h1, h2⟩ := ih (declare o env t t.text k acc).1 (declare o env t t.text k acc).2 (t.idx :: acc)
    exact ⟨count_seq (log_declare a o env t t.text k acc hk) h1, h2⟩

theorem declareParams_spec (ps : List Param) (o : Out) (env : Env) (acc : List Nat) :
    (log (declareParams o env ps acc).1).count a = (log o).count a + (sDeclParams env ps).count a ∧
    (declareParams o env ps acc).2 = bindParams env ps := by
  induction ps generalizing o env acc with
  | nil => exact ⟨count_nil _, rfl⟩
  | cons p rest ih =>
    cases p with
    | name t =>
      obtain ⟨h1, h2⟩ := ih (declare o env t t.text .param acc).1 (declare o env t t.text .param acc).2 (t.idx :: acc)
      exact ⟨count_seq (log_declare a o env t t.text .param acc (by simp)) h1, h2⟩
    | dots t =>
      obtain ⟨h1, h2⟩ := ih (declare o env t "..." .varargParam acc).1 (declare o env t "..." .varargParam acc).2 (t.idx :: acc)
      exact ⟨count_seq (log_pushDecl a o _ (D := []) rfl) h1, h2⟩

/-- eager reads of a variable / prefix whose root name occurs with kind `k` -/
def eVk (k : OccKind) (inF : Bool) (env : Env) (v : Var) : List Ans :=
  if k = .indexedTarget then eVT inF env v else eV inF env v
def ePk (k : OccKind) (inF : Bool) (env : Env) (p : Prefix) : List Ans :=
  if k = .indexedTarget then ePT inF env p else eP inF env p

theorem eVk_name (k : OccKind) (inF : Bool) (env : Env) (t : Tok) :
    eVk k inF env (.name t) = sRead inF env t (k == .indexedTarget) := by
  cases k <;> rfl
theorem ePk_name (k : OccKind) (inF : Bool) (env : Env) (t : Tok) :
    ePk k inF env (.name t) = sRead inF env t (k == .indexedTarget) := by
  cases k <;> rfl
theorem eVk_expr (k : OccKind) (inF : Bool) (env : Env) (sp : Span) (p : Prefix) (ss : SuffixList) :
    eVk k inF env (.expr sp p ss) = ePk k inF env p ++ eSs inF env ss := by
  unfold eVk ePk; split <;> rfl
theorem ePk_expr (k : OccKind) (inF : Bool) (env : Env) (e : Expr) : ePk k inF env (.expr e) = eE inF env e := by
  unfold ePk; split <;> rfl
theorem ePk_value (inF : Bool) (env : Env) (p : Prefix) : ePk .value inF env p = eP inF env p := rfl
theorem eVk_value (inF : Bool) (env : Env) (v : Var) : eVk .value inF env v = eV inF env v := rfl
theorem eVk_indexed (inF : Bool) (env : Env) (v : Var) : eVk .indexedTarget inF env v = eVT inF env v := rfl

/-- the targets' share of `sTargets` (`sTargets_count`) -/
def tV (inF : Bool) (env : Env) : VarList → List Ans
  | .nil => []
  | .cons v rest =>
    (match v with
      | .name t => sAssign env t
      | .expr _ _ _ => eVT inF env v) ++ tV inF env rest

theorem sTargets_count (a : Ans) (inF : Bool) (env : Env) (vars : VarList) (es : ExprList) :
    (sTargets inF env vars es).count a = (eEs inF env es).count a + (tV inF env vars).count a := by
  cases vars with
  | nil => exact count_nil _
  | cons v rest =>
    cases es with
    | nil =>
      show ([] ++ _ ++ sTargets inF env rest .nil).count a =
        ([] ++ eEs inF env .nil).count a + (_ ++ tV inF env rest).count a
      exact count_mid (sTargets_count a inF env rest .nil)
    | cons e es' =>
      show (eE inF env e ++ _ ++ sTargets inF env rest es').count a =
        (eE inF env e ++ eEs inF env es').count a + (_ ++ tV inF env rest).count a
      exact count_mid (sTargets_count a inF env rest es')

theorem sSs_count (a : Ans) (inF : Bool) (env : Env) (ss : SuffixList) :
    (sSs inF env ss).count a = (eSs inF env ss).count a + (dSs inF env ss).count a := by
  cases ss with
  | nil => exact count_nil _
  | cons s rest =>
    show (eS inF env s ++ dS inF env s ++ sSs inF env rest).count a =
      (eS inF env s ++ eSs inF env rest).count a + (dS inF env s ++ dSs inF env rest).count a
    exact count_mid (sSs_count a inF env rest)

theorem sCall_count (a : Ans) (inF : Bool) (env : Env) (p : Prefix) (ss : SuffixList) :
    (eP inF env p ++ dP inF env p ++ sSs inF env ss).count a =
      (eP inF env p ++ eSs inF env ss).count a + (dP inF env p ++ dSs inF env ss).count a :=
  count_mid (sSs_count a inF env ss)

mutual
/-- the walk of an `until` condition and what is read afterwards list the same answers as the eager read and the descent -/
theorem tr_count (a : Ans) (inF : Bool) (env : Env) : (e : Expr) →
    (tE inF env e).count a + (rE inF env e).count a = (eE inF env e).count a + (dE inF env e).count a
  | .paren _ e => tr_count a inF env e
  | .un _ _ e => tr_count a inF env e
  | .bin _ l _ r => count_seq₄ (tr_count a inF env l) (tr_count a inF env r)
  | .func _ _ _ => Nat.add_comm _ _
  | .call (.mk _ p ss) => sCall_count a inF env p ss  -- `rE` of a call is `[]`
  | .tbl _ fs => trFs_count a inF env fs
  | .var (.name _) => Nat.add_comm _ _
  | .var (.expr _ p ss) => by
    have h := count_seq₄ (R₂ := []) (trP_count a inF env p) (sSs_count a inF env ss)
    rwa [List.append_nil] at h
  | .dots _ => Nat.add_comm _ _
  | .nil _ => rfl
  | .true_ _ => rfl
  | .false_ _ => rfl
  | .num _ => rfl
  | .str _ _ _ => rfl
  | .unsupported _ => rfl
theorem trP_count (a : Ans) (inF : Bool) (env : Env) : (p : Prefix) →
    (tP inF env p).count a + (rP inF env p).count a = (eP inF env p).count a + (dP inF env p).count a
  | .name _ => Nat.add_comm _ _
  | .expr e => tr_count a inF env e
theorem trFs_count (a : Ans) (inF : Bool) (env : Env) : (fs : FieldList) →
    (tFs inF env fs).count a + (rFs inF env fs).count a = (eFs inF env fs).count a + (dFs inF env fs).count a
  | .nil => rfl
  | .cons (.exprKey _ k v) rest =>
    count_seq₄ (count_seq₄ (tr_count a inF env k) (tr_count a inF env v)) (trFs_count a inF env rest)
  | .cons (.nameKey _ _ v) rest => count_seq₄ (tr_count a inF env v) (trFs_count a inF env rest)
  | .cons (.noKey v) rest => count_seq₄ (tr_count a inF env v) (trFs_count a inF env rest)
  | .cons (.unsupported _) rest => trFs_count a inF env rest
end

/-- what `Spec.rTargets` and `Spec.rStmt` do with a plain-name target; `log` looks at neither of the two fields -/
def occTarget (o : Out) (c : Ctx) (env : Env) (t : Tok) : Out :=
  let o := o.occ c env t .target
  if (env.lookup t.text).isNone then
    { o with anyAssigned := t.text :: o.anyAssigned,
             topAssigned := if c.depth = 0 then t.text :: o.topAssigned else o.topAssigned }
  else o

theorem log_occTarget (o : Out) (c : Ctx) (env : Env) (t : Tok) :
    (log (occTarget o c env t)).count a = (log o).count a + (sAssign env t).count a := by
  unfold occTarget
  split <;> exact log_occ_target a o c env t

mutual
theorem rExpr_count (e : Expr) (o : Out) (c : Ctx) (env : Env) :
    (log (rExpr o c env e)).count a =
      (log o).count a + (eE c.inFunction env e).count a + (dE c.inFunction env e).count a := by
  cases e with
  | paren _ e => exact rExpr_count e o c env
  | un _ _ e => exact rExpr_count e o c env
  | bin _ l _ r => exact count_seq₂ (rExpr_count l o c env) (rExpr_count r _ c env)
  | func _ _ body => exact rBody_count body o c env none
  | call f => exact rFCall_count f o c env
  | tbl _ fs => exact rFields_count fs o c env
  | dots t => exact log_occ a o c env t .value (by simp)
  | var v => exact rVar_count v o c env .value (by simp)
  | _ => exact count_nil₂ _
theorem rExprs_count (es : ExprList) (o : Out) (c : Ctx) (env : Env) :
    (log (rExprs o c env es)).count a =
      (log o).count a + (eEs c.inFunction env es).count a + (dEs c.inFunction env es).count a := by
  cases es with
  | nil => exact count_nil₂ _
  | cons e rest => exact count_seq₂ (rExpr_count e o c env) (rExprs_count rest _ c env)
theorem rFields_count (fs : FieldList) (o : Out) (c : Ctx) (env : Env) :
    (log (rFields o c env fs)).count a =
      (log o).count a + (eFs c.inFunction env fs).count a + (dFs c.inFunction env fs).count a := by
  cases fs with
  | nil => exact count_nil₂ _
  | cons f rest =>
    cases f with
    | exprKey _ k v =>
      exact count_seq₂ (count_seq₂ (rExpr_count k o c env) (rExpr_count v _ c env)) (rFields_count rest _ c env)
    | nameKey _ _ v => exact count_seq₂ (rExpr_count v o c env) (rFields_count rest _ c env)
    | noKey v => exact count_seq₂ (rExpr_count v o c env) (rFields_count rest _ c env)
    | unsupported _ => exact rFields_count rest o c env
theorem rVar_count (v : Var) (o : Out) (c : Ctx) (env : Env) (k : OccKind) (hk : k ≠ .target) :
    (log (rVar o c env v k)).count a =
      (log o).count a + (eVk k c.inFunction env v).count a + (dV c.inFunction env v).count a := by
  cases v with
  | name t => exact eVk_name k .. ▸ log_occ a o c env t k hk
  | expr sp p ss => exact eVk_expr k .. ▸ count_seq₂ (rPrefix_count p o c env k hk) (rSuffixes_count ss _ c env)
theorem rPrefix_count (p : Prefix) (o : Out) (c : Ctx) (env : Env) (k : OccKind) (hk : k ≠ .target) :
    (log (rPrefix o c env p k)).count a =
      (log o).count a + (ePk k c.inFunction env p).count a + (dP c.inFunction env p).count a := by
  cases p with
  | name t => exact ePk_name k .. ▸ log_occ a o c env t k hk
  | expr e => exact ePk_expr k .. ▸ rExpr_count e o c env
theorem rSuffixes_count (ss : SuffixList) (o : Out) (c : Ctx) (env : Env) :
    (log (rSuffixes o c env ss)).count a =
      (log o).count a + (eSs c.inFunction env ss).count a + (dSs c.inFunction env ss).count a := by
  cases ss with
  | nil => exact count_nil₂ _
  | cons s rest =>
    cases s with
    | dot _ _ => exact rSuffixes_count rest o c env
    | idx _ e => exact count_seq₂ (rExpr_count e o c env) (rSuffixes_count rest _ c env)
    | args _ ar => exact count_seq₂ (rArgs_count ar o c env) (rSuffixes_count rest _ c env)
    | meth _ _ ar => exact count_seq₂ (rArgs_count ar o c env) (rSuffixes_count rest _ c env)
    | unsupported _ => exact rSuffixes_count rest o c env
theorem rArgs_count (ar : Args) (o : Out) (c : Ctx) (env : Env) :
    (log (rArgs o c env ar)).count a =
      (log o).count a + (eA c.inFunction env ar).count a + (dA c.inFunction env ar).count a := by
  cases ar with
  | parens _ es => exact rExprs_count es o c env
  | str _ _ _ => exact count_nil₂ _
  | tbl _ fs => exact rFields_count fs o c env
theorem rFCall_count (f : FCall) (o : Out) (c : Ctx) (env : Env) :
    (log (rFCall o c env f)).count a =
      (log o).count a + (eC c.inFunction env f).count a + (dC c.inFunction env f).count a := by
  cases f with
  | mk _ p ss => exact count_seq₂ (rPrefix_count p o c env .value (by simp)) (rSuffixes_count ss _ c env)
theorem rBody_count (body : FuncBody) (o : Out) (c : Ctx) (env : Env) (selfTok : Option Tok) :
    (log (rBody o c env selfTok body)).count a = (log o).count a + (sBody env selfTok body).count a := by
  cases body with
  | mk _ params b =>
    cases selfTok with
    | none =>
      obtain ⟨h1, h2⟩ := declareParams_spec a params o (("...", none) :: env) []
      exact count_seq h1 (h2 ▸ (rBlock_count b _ _ _).1)
    | some m =>
      obtain ⟨h1, h2⟩ := declareParams_spec a params (declare o env m "self" .self_ []).1
        (("...", none) :: bindTok env m "self" .self_) []
      exact count_seq (count_seq (log_declare a o env m "self" .self_ [] (by simp)) h1) (h2 ▸ (rBlock_count b _ _ _).1)
theorem rBlock_count (b : Block) (o : Out) (c : Ctx) (env : Env) :
    (log (rBlock o c env b).1).count a = (log o).count a + (sBlock c.inFunction env b).1.count a ∧
    (rBlock o c env b).2 = (sBlock c.inFunction env b).2 := by
  cases b with
  | mk _ stmts last =>
    obtain ⟨h1, h2⟩ := rStmts_count stmts o c env
    cases last with
    | ret _ es =>
      exact ⟨count_seq₁₂ h1 (h2 ▸ rExprs_count es (rStmts o c env stmts).1 c (rStmts o c env stmts).2), h2⟩
    | _ => exact ⟨h1, h2⟩
theorem rStmts_count (l : StmtList) (o : Out) (c : Ctx) (env : Env) :
    (log (rStmts o c env l).1).count a = (log o).count a + (sStmts c.inFunction env l).1.count a ∧
    (rStmts o c env l).2 = (sStmts c.inFunction env l).2 := by
  cases l with
  | nil => exact ⟨count_nil _, rfl⟩
  | cons s rest =>
    obtain ⟨h1, h2⟩ := rStmt_count s o c env
    obtain ⟨h3, h4⟩ := rStmts_count rest (rStmt o c env s).1 c (rStmt o c env s).2
    exact ⟨count_seq h1 (h2 ▸ h3), h4.trans (congrArg (fun e => (sStmts c.inFunction e rest).2) h2)⟩
theorem rTargets_count (vars : VarList) (o : Out) (c : Ctx) (env : Env) :
    (log (rTargets o c env vars)).count a =
      (log o).count a + (tV c.inFunction env vars).count a + (dVs c.inFunction env vars).count a := by
  cases vars with
  | nil => exact count_nil₂ _
  | cons v rest =>
    have ih := fun o' => rTargets_count rest o' c env
    have hv := rVar_count v o c env .indexedTarget (by simp)
    cases v with
    | name t => exact count_seq₂ (log_occTarget a o c env t) (ih _)
    | expr vsp p ss => exact count_seq₂ hv (ih _)
theorem rElseIfs_count (l : ElseIfList) (o : Out) (c : Ctx) (env : Env) :
    (log (rElseIfs o c env l)).count a = (log o).count a + (sElifs c.inFunction env l).count a := by
  cases l with
  | nil => exact count_nil _
  | cons e rest =>
    cases e with
    | mk _ cond b =>
      exact count_seq (count_seq (count_join (rExpr_count cond o c env))
        (rBlock_count b _ { c with depth := c.depth + 1 } env).1) (rElseIfs_count rest _ c env)
theorem rStmt_count (s : Stmt) (o : Out) (c : Ctx) (env : Env) :
    (log (rStmt o c env s).1).count a = (log o).count a + (sStmt c.inFunction env s).1.count a ∧
    (rStmt o c env s).2 = (sStmt c.inFunction env s).2 := by
  cases s with
  | assign _ vars es =>
    refine ⟨?_, rfl⟩
    show (log (rTargets (rExprs o c env es) c env vars)).count a = (log o).count a +
      (sTargets c.inFunction env vars es ++ dVs c.inFunction env vars ++ dEs c.inFunction env es).count a
    simp +arith only [rTargets_count vars, rExprs_count es, List.count_append, sTargets_count]
  | localAssign _ names es =>
    obtain ⟨h1, h2⟩ := declareAll_spec a .local_ (by simp) names (rExprs o c env es) env []
    exact ⟨count_seq (count_join (rExprs_count es o c env)) h1, h2⟩
  | call f =>
    have h := rFCall_count f o c env
    cases f with
    | mk fsp p ss => exact ⟨count_as₁ h (sCall_count a _ env p ss), rfl⟩
  | do_ _ b => exact ⟨(rBlock_count b o { c with depth := c.depth + 1 } env).1, rfl⟩
  | while_ _ cond b =>
    exact ⟨count_seq (count_join (rExpr_count cond o c env)) (rBlock_count b _ { c with depth := c.depth + 1 } env).1, rfl⟩
  | repeat_ _ b cond =>
    obtain ⟨h1, h2⟩ := rBlock_count b o { c with depth := c.depth + 1 } env
    exact ⟨count_seq₁₂ h1 (count_as (h2 ▸ rExpr_count cond _ c _) (tr_count a _ _ cond)), rfl⟩
  | if_ _ cond b elifs els =>
    refine ⟨?_, rfl⟩
    have h := count_seq (count_seq (count_join (rExpr_count cond o c env))
      (rBlock_count b _ { c with depth := c.depth + 1 } env).1) (rElseIfs_count elifs _ c env)
    cases els with
    | none => exact count_seq h (count_nil _)
    | some eb => exact count_seq h (rBlock_count eb _ { c with depth := c.depth + 1 } env).1
  | numFor _ v _ start stop step b =>
    refine ⟨?_, rfl⟩
    have h := count_seq₂ (rExpr_count start o c env) (rExpr_count stop _ c env)
    have decl := fun o' => log_declare a o' env v v.text .loopVar [] (by simp)
    cases step with
    | none =>
      have hdr := count_join (count_seq₂ h (count_nil₂ _))
      simp only [← List.append_assoc] at hdr
      exact count_seq (count_seq hdr (decl _)) (rBlock_count b _ { c with depth := c.depth + 1 } _).1
    | some st =>
      have hdr := count_join (count_seq₂ h (rExpr_count st _ c env))
      simp only [← List.append_assoc] at hdr
      exact count_seq (count_seq hdr (decl _)) (rBlock_count b _ { c with depth := c.depth + 1 } _).1
  | genFor sp names es b =>
    refine ⟨?_, rfl⟩
    -- `o'`: the header's token range is noted in `loopHeaders`, which `log` does not look at
    have key : ∀ o' : Out, log o' = log (rExprs o c env es) →
        (log (rBlock (declareAll o' env .loopVar names []).1 { c with depth := c.depth + 1 }
          (declareAll o' env .loopVar names []).2 b).1).count a =
        (log o).count a + (sStmt c.inFunction env (.genFor sp names es b)).1.count a := by
      intro o' ho
      obtain ⟨h1, h2⟩ := declareAll_spec a .loopVar (by simp) names o' env []
      exact count_seq (count_seq (ho ▸ count_join (rExprs_count es o c env)) h1) (h2 ▸ (rBlock_count b _ _ _).1)
    exact key _ (by split <;> rfl)
  | func _ name body =>
    obtain ⟨nsp, names, method⟩ := name
    cases names with
    | nil => exact ⟨count_nil _, rfl⟩
    | cons base more =>
      have h : ∀ longer : Bool, (log (if longer then o.occ c env base .indexedTarget else occTarget o c env base)).count a =
          (log o).count a + (if longer = true then sRead c.inFunction env base true else sAssign env base).count a := by
        intro longer
        cases longer
        · exact log_occTarget a o c env base
        · exact log_occ a o c env base .indexedTarget (by simp)
      exact ⟨count_seq (h _) (rBody_count body _ c env method), rfl⟩
  | localFunc _ name body =>
    exact ⟨count_seq (log_declare a o env name name.text .localFunc [] (by simp)) (rBody_count body _ c _ none), rfl⟩
  | unsupported _ => exact ⟨count_nil _, rfl⟩
end

theorem resolve_count (a : Ans) (b : Block) : (log (resolve b)).count a = (chunk b).count a :=
  (rBlock_count a b {} { inFunction := false, depth := 0 } []).1.trans (Nat.zero_add _)

theorem resolve_perm (b : Block) : (log (resolve b)).Perm (chunk b) :=
  List.perm_iff_count.mpr fun a => resolve_count a b

theorem filterMap_none {α β : Type} (l : List α) : l.filterMap (fun _ => (none : Option β)) = [] :=
  List.filterMap_eq_nil_iff.mpr fun _ _ => rfl

theorem occAns_readOf (oc : Occ) : Core.Ans.readOf (occAns oc) = some (oc.tok, oc.binding.map (·.1)) := by
  unfold occAns; split <;> rfl
theorem occAns_declOf (oc : Occ) : Core.Ans.declOf (occAns oc) = none := by
  unfold occAns; split <;> rfl
theorem occAns_assignOf (oc : Occ) : Core.Ans.assignOf (occAns oc) = none := by
  unfold occAns; split <;> rfl
theorem occAns_valueOf (oc : Occ) :
    Core.Ans.valueOf (occAns oc) = if oc.kind == .indexedTarget then none else some (oc.tok, oc.binding.map (·.1)) := by
  unfold occAns; split <;> rfl

theorem log_filterMap {γ : Type} (f : Ans → Option γ) (o : Out) :
    (log o).filterMap f = (readsOf o).filterMap f ++ (declsOf o).filterMap f ++ (assignsOf o).filterMap f := by
  unfold log; rw [List.filterMap_append, List.filterMap_append]

theorem decls_none {γ : Type} (o : Out) (f : Ans → Option γ) (hf : ∀ t d, f (.decl t d) = none) :
    (declsOf o).filterMap f = [] :=
  filterMap_map_eq_nil _ f (fun _ => hf _ _) _
theorem assigns_none {γ : Type} (o : Out) (f : Ans → Option γ) (hf : ∀ t, f (.gassign t) = none) :
    (assignsOf o).filterMap f = [] :=
  filterMap_map_eq_nil _ f (fun _ => hf _) _
theorem reads_none {γ : Type} (o : Out) (f : Ans → Option γ) (hf : ∀ oc, f (occAns oc) = none) :
    (readsOf o).filterMap f = [] :=
  filterMap_map_eq_nil occAns f hf _

theorem log_reads (o : Out) : (log o).filterMap Core.Ans.readOf = reads o := by
  rw [log_filterMap, decls_none o _ (fun _ _ => rfl), assigns_none o _ (fun _ => rfl), List.append_nil, List.append_nil]
  exact filterMap_map_filter _ _ _ _ _ (fun oc => by rw [occAns_readOf]) _

theorem log_shadows (o : Out) : (log o).filterMap Core.Ans.declOf = shadows o := by
  rw [log_filterMap, reads_none o _ occAns_declOf, assigns_none o _ (fun _ => rfl), List.nil_append, List.append_nil]
  exact filterMap_map_filter _ _ _ _ _ (fun _ => by rfl) _

theorem log_globalAssigns (o : Out) : (log o).filterMap Core.Ans.assignOf = globalAssigns o := by
  rw [log_filterMap, reads_none o _ occAns_assignOf, decls_none o _ (fun _ _ => rfl), List.nil_append, List.nil_append]
  exact filterMap_map_filter _ _ _ _ _ (fun _ => by rfl) _

theorem log_valueUses (o : Out) : (log o).filterMap Core.Ans.valueOf = valueUses o := by
  rw [log_filterMap, decls_none o _ (fun _ _ => rfl), assigns_none o _ (fun _ => rfl), List.append_nil, List.append_nil]
  refine filterMap_map_filter _ _ _ _ _ (fun oc => ?_) _
  rw [occAns_valueOf]
  cases hk : oc.kind with
  | target => simp [counted, hk]
  | _ => simp

theorem mem_globalAssigns (o : Out) (t : Nat) :
    t ∈ globalAssigns o ↔ ∃ oc ∈ o.occs, assignsGlobal oc = true ∧ Core.NameFilter.assign oc.name = true ∧ oc.tok = t := by
  simp only [globalAssigns, List.mem_map, List.mem_filter, Bool.and_eq_true, and_assoc]

end Selene.Scope.SpecProof
