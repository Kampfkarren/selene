/-
C13 — whitespace and comments do not change what is diagnosed.

The model lints compute over the trivia-free tree and name ranges by token index; byte offsets
live only in the `Layout`, which these functions never receive.  Layout-independence of the
modelled lints is therefore parametricity: the functions below are applied to a chunk but cannot
observe its layout.  What makes this non-vacuous is the correspondence run: the real lints, run on
a program and on a trivia-rewritten twin, must produce the same diagnostics in token space — every
place where the Rust looked at source text *with* its trivia broke exactly that (see the `fixed:`
lines for C13 in known_findings.txt).
-/
import Selene.Scope.Lints
import Selene.Scope.MoreLints
import Selene.Scope.RefAt
import Selene.Std.Access
import Selene.Std.Prog
import Selene.Lints.DivideByZero
import Selene.Lints.CompareNan
import Selene.Lints.SuspiciousReverseLoop
import Selene.Lints.DuplicateKeys
import Selene.Lints.MixedTable
import Selene.Lints.ConstantTableComparison
import Selene.Lints.TypeCheckInsideCall
import Selene.Lints.BadStringEscape
import Selene.Lints.ParentheseConditions
import Selene.Lints.Cyclomatic
import Selene.Lints.Roblox
import Selene.Lints.UnbalancedAssignments
import Selene.Lints.EmptyIf
import Selene.Lints.EmptyLoop
import Selene.Lints.IfSameThenElse
import Selene.Lints.IfsSameCond
import Selene.Lints.AlmostSwapped
import Selene.Lints.MismatchedArgCount
import Selene.Lints.MultipleStatements
import Selene.Scope.ManualTableClone
import Selene.Lints.Roact
namespace Selene.Props.C13
open Selene.Scope Selene.Lua

/-- all diagnostics of the modelled scope lints for a chunk, in token space -/
def scopeDiags (hasFields : String → Bool) (argObserves : List String → Nat → Option Bool)
    (ignore : String → Bool) (aus : Bool) (c : Chunk) : List Diag :=
  let σ := analyse c.block
  undefinedVariable hasFields σ ++ unusedVariable hasFields argObserves ignore aus σ ++ shadowing ignore σ

/-- **C13 (layout-free).** Two chunks with the same tree and different layouts (any whitespace,
any comments, any byte positions) get the same diagnostics in token space. -/
theorem C13_layout_free (hasFields : String → Bool) (argObserves : List String → Nat → Option Bool)
    (ignore : String → Bool) (aus : Bool) (b : Block) (L₁ L₂ : Layout) :
    scopeDiags hasFields argObserves ignore aus { block := b, layout := L₁ } =
    scopeDiags hasFields argObserves ignore aus { block := b, layout := L₂ } := rfl

theorem C13_tables_layout_free (b : Block) (L₁ L₂ : Layout) :
    (analyse ({ block := b, layout := L₁ } : Chunk).block).refs = (analyse ({ block := b, layout := L₂ } : Chunk).block).refs := rfl

/-- the byte range a token range stands for; the layout comes in only here, after the lints have run -/
def toBytes (L : Layout) (s : Span) : Option (Nat × Nat) :=
  match L[s.first]?, L[s.last]? with
  | some a, some b => some (a.start, b.stop)
  | _, _ => none

theorem C13_shift (hasFields : String → Bool) (argObserves : List String → Nat → Option Bool)
    (ignore : String → Bool) (aus : Bool) (b : Block) (L₁ L₂ : Layout) :
    (scopeDiags hasFields argObserves ignore aus { block := b, layout := L₁ }).map (fun d => (d.code, d.primary, d.secondary)) =
    (scopeDiags hasFields argObserves ignore aus { block := b, layout := L₂ }).map (fun d => (d.code, d.primary, d.secondary)) := rfl

/-! ## Every modelled lint

`toks` (the text of every token) and `seps` (which tokens are separators) are what `purge_trivia` leaves of
the source; the library, the configuration and the tree are the other inputs.  None of the functions below
receives the layout — except `multiple_statements`, which is documented to look at lines and is treated
separately (`C13_multiple_statements_lines_only`). -/

structure AllDiags where
  scope : List Diag
  more : List Diag
  exprLints : List Selene.Lints.Diag
  stmtLints : List Selene.LintsB.Diag
  library : List Selene.Std.Prog.PDiag
  clone : List Selene.Scope.ManualTableClone.Match
  roact : List Selene.Lints.Roact.Diag
deriving DecidableEq

open Selene.Lints Selene.LintsB in
/-- the diagnostics of the modelled lints for a chunk, in token space: with `multiple_statements` (treated separately below) and
    `invalid_lint_filter` (the filter machine of C08 / C09) every lint of selene's 32.  `hasClone`: does the library
    define `table.clone`; `filterComments`: the comments in front of each token (read for filter comments only) -/
def allDiags (hasFields : String → Bool) (argObserves : List String → Nat → Option Bool)
    (ignore : String → Bool) (aus roblox : Bool) (maxComplexity : Nat) (lib : Selene.Std.SegLib) (allow : List (List String))
    (toks : List String) (seps : List Nat) (hasClone : Bool) (filterComments : Nat → List String)
    (roactEnabled : Bool) (classes : Selene.Std.Roblox.Classes) (c : Chunk) : AllDiags :=
  let σ := analyse c.block
  let R := (Core.analyse c.block).resolvedAt
  { scope := undefinedVariable hasFields σ ++ unusedVariable hasFields argObserves ignore aus σ ++ shadowing ignore σ,
    more := globalUsage roblox none σ ++ unscopedVariables ignore hasFields σ,
    exprLints := DivideByZero.lint c.block ++ CompareNan.lint c.block ++ SuspiciousReverseLoop.lint c.block ++
      DuplicateKeys.lint c.block ++ MixedTable.lint c.block ++ ConstantTableComparison.lint c.block ++
      TypeCheckInsideCall.lint roblox c.block ++ BadStringEscape.lint roblox c.block ++ ParentheseConditions.lint c.block ++
      Cyclomatic.lint maxComplexity c.block ++ (if roblox then Selene.Lints.Roblox.lint c.block else []),
    stmtLints := UnbalancedAssignments.run c.block ++ EmptyIf.run c.block ++ EmptyLoop.run c.block ++
      IfSameThenElse.run toks seps c.block ++ IfsSameCond.run toks seps c.block ++ AlmostSwapped.run toks c.block ++
      MismatchedArgCount.run c.block,
    library := Selene.Std.Prog.stdLint lib R c.block ++ Selene.Std.Prog.deprecatedLint lib R allow c.block ++
      Selene.Std.Prog.mustUseLint lib R c.block,
    clone := Selene.Scope.ManualTableClone.run hasClone σ filterComments c.block,
    roact := Selene.Lints.Roact.run roactEnabled toks classes c.block }

/-- **C13 (all modelled lints are layout-free).** Same tree, same token texts, any two layouts: the same
diagnostics in token space, for every library and configuration. -/
theorem C13_all_layout_free (hasFields : String → Bool) (argObserves : List String → Nat → Option Bool)
    (ignore : String → Bool) (aus roblox : Bool) (maxComplexity : Nat) (lib : Selene.Std.SegLib) (allow : List (List String))
    (toks : List String) (seps : List Nat) (hasClone : Bool) (filterComments : Nat → List String)
    (roactEnabled : Bool) (classes : Selene.Std.Roblox.Classes) (b : Block) (L₁ L₂ : Layout) :
    allDiags hasFields argObserves ignore aus roblox maxComplexity lib allow toks seps hasClone filterComments roactEnabled classes { block := b, layout := L₁ } =
    allDiags hasFields argObserves ignore aus roblox maxComplexity lib allow toks seps hasClone filterComments roactEnabled classes { block := b, layout := L₂ } := rfl

def relabel (f : Nat → Nat) (σ : Selene.LintsB.MultipleStatements.St) : Selene.LintsB.MultipleStatements.St :=
  { σ with ifLines := σ.ifLines.map f, lines := σ.lines.map f }

theorem contains_map_inj (f : Nat → Nat) (hf : ∀ a b, f a = f b → a = b) (l : List Nat) (x : Nat) :
    (l.map f).contains (f x) = l.contains x := by
  rw [List.contains_map, List.contains_eq_any_beq]
  exact congrArg l.any (funext fun a => decide_eq_decide.mpr ⟨hf _ _, congrArg f⟩)

theorem filter_map_inj (f : Nat → Nat) (hf : ∀ a b, f a = f b → a = b) (l : List Nat) (x : Nat) :
    (l.map f).filter (· != f x) = (l.filter (· != x)).map f := by
  rw [List.filter_map]
  exact congrArg _ (List.filter_congr fun a _ => congrArg not (decide_eq_decide.mpr ⟨hf _ _, congrArg f⟩))

open Selene.LintsB.MultipleStatements in
/-- **C13 (multiple_statements under any change of blank lines and comments that neither joins nor splits
lines of code).** If the second layout's line numbers are the first's under an injective relabelling — blank
lines and comment lines added or removed anywhere shift the lines after them, tokens that shared a line still
do and no others — the reports are the same. -/
theorem C13_multiple_statements_relabel (L₁ L₂ : Layout) (f : Nat → Nat) (hf : ∀ a b, f a = f b → a = b)
    (h : ∀ i, endLine L₂ i = f (endLine L₁ i)) (b : Block) : run L₁ b = run L₂ b := by
  have hl : ∀ σ sp, lintStmt L₂ (relabel f σ) sp = relabel f (lintStmt L₁ σ sp) := by
    intro σ sp
    unfold lintStmt
    simp only [apply_ite (relabel f), h]
    simp only [relabel, contains_map_inj f hf, filter_map_inj f hf, List.map_cons]
  have hp : ∀ σ c blk, prepareIf L₂ (relabel f σ) c blk = relabel f (prepareIf L₁ σ c blk) := by
    intro σ c blk
    unfold prepareIf
    split
    · rfl
    · simp only [relabel, h, contains_map_inj f hf, apply_ite (List.map f), List.map_cons]
    · rfl
  have hs : ∀ σ n, step L₂ (relabel f σ) n = relabel f (step L₁ σ n) := by
    intro σ n
    unfold step
    split
    · rw [hp, hl]
    · exact hl ..
    · exact hl ..
    · rfl
  exact (congrArg (·.diags) (List.foldl_hom (relabel f) (H := hs) (init := {}) (l := Selene.LintsB.nBlock b))).symm

open Selene.LintsB.MultipleStatements in
/-- **C13 (multiple_statements looks at lines only).** Two layouts that put the end of every token on the same
line — any change of blanks and comments that neither joins nor splits lines, up to blank lines *inside* the
file being kept — give the same reports: the lint sees the layout through `endLine` alone. -/
theorem C13_multiple_statements_lines_only (L₁ L₂ : Layout) (h : ∀ i, endLine L₁ i = endLine L₂ i) (b : Block) :
    run L₁ b = run L₂ b :=
  C13_multiple_statements_relabel L₁ L₂ id (fun _ _ h => h) (fun i => (h i).symm) b

end Selene.Props.C13
