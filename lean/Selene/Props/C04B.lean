/-
C04 (half B): the statement-level closed-form lints fire exactly on their documented condition.

Per lint: `<lint>_sound` (a reported diagnostic implies the documented condition, `Doc.*`, written from
docs/src/lints/<lint>.md) and `<lint>_canon*` (the documented canonical pattern, standing *anywhere* in the
program — `Within (.block P) …`, any block position at any nesting depth, through function bodies in expressions
too — is reported).  Where the code departs from the documentation (mismatched_arg_count's definition map,
multiple_statements inside a closure in an `if` condition) the theorem says what the code does (for
multiple_statements a witness shows the departure on the model); the driver reports the same departure on the real code (`[C04] … false-positive /
missed-canonical`).  The `…_not_reported` / `…_reported` theorems evaluate the model on inputs that selene judged
wrongly before the /repo commit named at each (626a695, 7d0e4db, 820d472, 7450b57).
-/
import Selene.Lints.TraverseBLemmas
import Selene.Lints.UnbalancedAssignments
import Selene.Lints.EmptyIf
import Selene.Lints.EmptyLoop
import Selene.Lints.IfSameThenElse
import Selene.Lints.IfsSameCond
import Selene.Lints.AlmostSwapped
import Selene.Lints.MismatchedArgCount
import Selene.Lints.MultipleStatements
namespace Selene.Props.C04B
open Selene.Lua Selene.LintsB

theorem mem_run_of_within_stmt {P : Block} {s : Stmt} {g : Diag} (collect : Node → List Diag)
    (h : Within (.block P) (.stmt s)) (hg : g ∈ collect (.stmt s)) : g ∈ (nBlock P).flatMap collect :=
  List.mem_flatMap.mpr ⟨_, within_stmt_mem h, hg⟩

theorem stmt_of_mem_flatMap {collect : Node → List Diag} {P : Block} {g : Diag} (h : g ∈ (nBlock P).flatMap collect)
    (hb : ∀ b, collect (.block b) = []) (hl : ∀ l, collect (.last l) = []) (hc : ∀ c, collect (.call c) = []) :
    ∃ s, Node.stmt s ∈ nBlock P ∧ g ∈ collect (.stmt s) := by
  obtain ⟨n, hn, hg⟩ := List.mem_flatMap.mp h
  cases n with
  | stmt s => exact ⟨s, hn, hg⟩
  | block b => rw [hb] at hg; cases hg
  | last l => rw [hl] at hg; cases hg
  | call c => rw [hc] at hg; cases hg

section SeenScan
variable {α : Type}

/-- the loop of `if_same_then_else` and of `ifs_same_cond` -/
def seenScan (skip : α → Bool) (sim : α → α → Bool) (mk : α → α → Diag) : List α → List α → List Diag
  | _, [] => []
  | seen, b :: rest =>
    if skip b then seenScan skip sim mk seen rest
    else match seen.find? (fun o => sim o b) with
      | some o => mk o b :: seenScan skip sim mk seen rest
      | none => seenScan skip sim mk (seen ++ [b]) rest

variable {skip : α → Bool} {sim : α → α → Bool} {mk : α → α → Diag}

theorem seen_scan_skip {seen rest : List α} {b : α} (h : skip b = true) :
    seenScan skip sim mk seen (b :: rest) = seenScan skip sim mk seen rest := by
  simp only [seenScan, h, ↓reduceIte]

theorem seen_scan_report {seen rest : List α} {b o : α} (h : skip b = false) (hf : seen.find? (fun o => sim o b) = some o) :
    seenScan skip sim mk seen (b :: rest) = mk o b :: seenScan skip sim mk seen rest := by
  simp only [seenScan, h, hf, Bool.false_eq_true, ↓reduceIte]

theorem seen_scan_remember {seen rest : List α} {b : α} (h : skip b = false) (hf : seen.find? (fun o => sim o b) = none) :
    seenScan skip sim mk seen (b :: rest) = seenScan skip sim mk (seen ++ [b]) rest := by
  simp only [seenScan, h, hf, Bool.false_eq_true, ↓reduceIte]

/-- `A` holds of what is remembered, `B` of what is reported -/
theorem seen_scan_sound {A B : α → Prop} {g : Diag} :
    ∀ {rest seen : List α}, (∀ x ∈ seen, A x) → (∀ y ∈ rest, skip y = false → A y ∧ B y) →
      g ∈ seenScan skip sim mk seen rest → ∃ x y, A x ∧ B y ∧ skip y = false ∧ sim x y = true ∧ g = mk x y := by
  intro rest
  induction rest with
  | nil => intro seen _ _ h; cases h
  | cons b rest ih =>
    intro seen hA hB h
    obtain ⟨hAB, hB'⟩ := List.forall_mem_cons.mp hB
    cases hb : skip b with
    | true => exact ih hA hB' (seen_scan_skip hb ▸ h)
    | false =>
      obtain ⟨hAb, hBb⟩ := hAB hb
      cases hf : seen.find? (fun o => sim o b) with
      | some o =>
        rcases List.mem_cons.mp (seen_scan_report hb hf ▸ h) with rfl | h
        · exact ⟨o, b, hA o (List.mem_of_find?_eq_some hf), hBb, hb, List.find?_some (p := fun o => sim o b) hf, rfl⟩
        · exact ih hA hB' h
      | none =>
        refine ih (fun x hx => ?_) hB' (seen_scan_remember hb hf ▸ h)
        rcases List.mem_append.mp hx with hx | hx
        · exact hA x hx
        · exact List.mem_singleton.mp hx ▸ hAb

end SeenScan

section Unbalanced
open UnbalancedAssignments

theorem exprIsNil_eq (e : Expr) : exprIsNil e = Doc.denotesNil e := by
  -- one definition written down twice
  delta exprIsNil Doc.denotesNil
  rfl

theorem ellipsis_or_call (e : Expr) : (exprIsEllipsis e || exprIsCall e) = (Doc.multiValued e || parenthesisedCall e) := by
  cases e <;> rfl

theorem collect_stmt {s : Stmt} {lhs : Nat} {rhs : List Expr} (hs : assignShape s = some (lhs, rhs)) :
    collect (.stmt s) = lintAssignment lhs rhs := by
  simp only [collect, hs]

theorem lintAssignment_more {lhs : Nat} {rhs : List Expr} {last : Expr} (hl : rhs.getLast? = some last) (hm : lhs < rhs.length) :
    lintAssignment lhs rhs =
      [{ code := "unbalanced_assignments", primary := ⟨rhs[lhs].span.first, last.span.last⟩, msg := msgMore }] := by
  cases rhs with
  | nil => cases hl
  | cons first rest => simp only [lintAssignment, hl, List.head?_cons, gt_iff_lt, hm, ↓reduceIte, List.getElem?_eq_getElem]

theorem lintAssignment_le {lhs : Nat} {rhs : List Expr} {first last : Expr} (hf : rhs.head? = some first)
    (hl : rhs.getLast? = some last) (hm : rhs.length ≤ lhs) :
    lintAssignment lhs rhs =
      if rhs.length < lhs ∧ (Doc.multiValued last || parenthesisedCall last) = false ∧ Doc.denotesNil last = false then
        [{ code := "unbalanced_assignments", primary := ⟨first.span.first, last.span.last⟩, msg := msgLess,
           secondary := ((rhs.find? exprIsCall).map Expr.span).toList }]
      else [] := by
  simp only [lintAssignment, hl, hf, gt_iff_lt, Nat.not_lt.mpr hm, ↓reduceIte, ← ellipsis_or_call, ← exprIsNil_eq,
    Bool.and_eq_true, Bool.not_eq_true', decide_eq_true_eq, Bool.or_eq_false_iff, and_assoc]

theorem lintAssignment_sound {lhs : Nat} {rhs : List Expr} {g : Diag} (h : g ∈ lintAssignment lhs rhs) :
    Doc.unbalanced lhs rhs := by
  cases rhs with
  | nil => cases h
  | cons first rest =>
    have hl := List.getLast?_eq_some_getLast (List.cons_ne_nil first rest)
    refine ⟨_, hl, (Nat.lt_or_ge lhs _).imp_right fun hm => ?_⟩
    rw [lintAssignment_le rfl hl hm] at h
    obtain ⟨hlt, hmv, hnil⟩ := (List.mem_ite_nil_right.mp h).1
    exact ⟨hlt, (Bool.or_eq_false_iff.mp hmv).1, hnil⟩

/-- soundness: a report comes from an assignment statement that is unbalanced in the documented sense -/
theorem unbalanced_assignments_sound {P : Block} {g : Diag} (h : g ∈ run P) :
    ∃ s lhs rhs, Node.stmt s ∈ nBlock P ∧ assignShape s = some (lhs, rhs) ∧ Doc.unbalanced lhs rhs := by
  obtain ⟨s, hn, hg⟩ := stmt_of_mem_flatMap h (fun _ => rfl) (fun _ => rfl) (fun _ => rfl)
  cases hs : assignShape s with
  | none => simp only [collect, hs] at hg; cases hg
  | some p => exact ⟨s, p.1, p.2, hn, hs, lintAssignment_sound (collect_stmt hs ▸ hg)⟩

/-- model = documented condition, for every assignment whose last value is not a *parenthesised call* (which the
    code, more lenient than the documentation, treats like a call) -/
theorem lintAssignment_iff {lhs : Nat} {rhs : List Expr}
    (hp : ∀ last, rhs.getLast? = some last → parenthesisedCall last = false) :
    lintAssignment lhs rhs ≠ [] ↔ Doc.unbalanced lhs rhs := by
  constructor
  · intro h
    obtain ⟨g, hg⟩ := List.exists_mem_of_ne_nil _ h
    exact lintAssignment_sound hg
  · rintro ⟨last, hl, hcase⟩
    have hne : rhs ≠ [] := by rintro rfl; cases hl
    rcases hcase with hm | ⟨hlt, hmv, hnil⟩
    · rw [lintAssignment_more hl hm]; exact List.cons_ne_nil _ _
    · rw [lintAssignment_le (List.head?_eq_some_head hne) hl (Nat.le_of_lt hlt),
        if_pos ⟨hlt, by rw [hmv, hp last hl]; rfl, hnil⟩]
      exact List.cons_ne_nil _ _

/-- `a, b = (nil)`: a parenthesised nil is a nil (/repo 626a695) -/
def parenNilProgram : Block :=
  .mk (some ⟨0, 6⟩) (.cons (.assign ⟨0, 6⟩ (.cons (.name ⟨0, "a"⟩) (.cons (.name ⟨2, "b"⟩) .nil))
    (.cons (.paren ⟨4, 6⟩ (.nil ⟨5, "nil"⟩)) .nil)) .nil) .none

theorem unbalanced_paren_nil_not_reported : run parenNilProgram = [] := by decide

/-- a value that is certainly one non-nil value, spelled without parentheses -/
def plainValue : Expr → Bool
  | .num _ | .str _ _ _ | .true_ _ | .false_ _ | .tbl _ _ | .func _ _ _ | .bin _ _ _ _ | .un _ _ _ | .var _ => true
  | _ => false

/-- canonical pattern `a = 1, 2` (more values than targets), anywhere -/
theorem unbalanced_assignments_canon_more {P : Block} {s : Stmt} {lhs : Nat} {rhs : List Expr}
    (hw : Within (.block P) (.stmt s)) (hs : assignShape s = some (lhs, rhs)) (hm : rhs.length > lhs) :
    ∃ g ∈ run P, ∃ e last, rhs[lhs]? = some e ∧ rhs.getLast? = some last ∧
      g.primary = ⟨e.span.first, last.span.last⟩ ∧ g.msg = msgMore := by
  have hl := List.getLast?_eq_some_getLast (List.ne_nil_of_length_pos (Nat.zero_lt_of_lt hm))
  have hg : _ ∈ run P := mem_run_of_within_stmt collect hw (by
    rw [collect_stmt hs, lintAssignment_more hl hm]; exact List.mem_singleton.mpr rfl)
  exact ⟨_, hg, rhs[lhs], _, List.getElem?_eq_getElem hm, hl, rfl, rfl⟩

/-- canonical pattern `a, b, c = 1` (values missing, the last one a plain single value), anywhere -/
theorem unbalanced_assignments_canon_fewer {P : Block} {s : Stmt} {lhs : Nat} {rhs : List Expr} {first last : Expr}
    (hw : Within (.block P) (.stmt s)) (hs : assignShape s = some (lhs, rhs))
    (hf : rhs.head? = some first) (hl : rhs.getLast? = some last) (hm : rhs.length < lhs) (hp : plainValue last = true) :
    ∃ g ∈ run P, g.primary = ⟨first.span.first, last.span.last⟩ ∧ g.msg = msgLess := by
  have h2 : (Doc.multiValued last || parenthesisedCall last) = false ∧ Doc.denotesNil last = false := by
    cases last
    case num | str | true_ | false_ | tbl | func | bin | un | var => exact ⟨rfl, rfl⟩
    all_goals cases hp
  have hg : _ ∈ run P := mem_run_of_within_stmt collect hw (by
    rw [collect_stmt hs, lintAssignment_le hf hl (Nat.le_of_lt hm), if_pos ⟨hm, h2⟩]; exact List.mem_singleton.mpr rfl)
  exact ⟨_, hg, rfl, rfl⟩

/-- `do h(function() a, b, c = 1 end) end`: the canonical statement as the body of a function expression inside
    a call inside a `do` block -/
def exNested : Stmt × Block :=
  let s : Stmt := .assign ⟨7, 13⟩ (.cons (.name ⟨7, "a"⟩) (.cons (.name ⟨9, "b"⟩) (.cons (.name ⟨11, "c"⟩) .nil))) (.cons (.num ⟨13, "1"⟩) .nil)
  let inner : Block := .mk (some ⟨7, 13⟩) (.cons s .nil) .none
  let call : Stmt := .call (.mk ⟨1, 15⟩ (.name ⟨1, "h"⟩) (.cons (.args ⟨2, 15⟩ (.parens ⟨2, 15⟩ (.cons (.func ⟨3, 14⟩ ⟨3, "function"⟩ (.mk ⟨4, 14⟩ [] inner)) .nil))) .nil))
  (s, .mk (some ⟨0, 16⟩) (.cons (.do_ ⟨0, 16⟩ (.mk (some ⟨1, 15⟩) (.cons call .nil) .none)) .nil) .none)

example : Within (.block exNested.2) (.stmt exNested.1) ∧ assignShape exNested.1 = some (3, [Expr.num ⟨13, "1"⟩]) := by
  refine ⟨?_, rfl⟩
  exact .step (.head _) <| .step (.head _) <| .step (.head _) <| .step (.head _) <| .step (.head _) <| .step (.head _) <|
    .step (.tail _ (.head _)) <| .step (.head _) <| .step (.head _) <| .step (.head _) <| .step (.head _) <|
    .step (.head _) <| .step (.head _) <| .step (.head _) <| .step (.head _) <| .refl _

end Unbalanced

section EmptyIf
open EmptyIf

theorem blockIsEmpty_iff (b : Block) : blockIsEmpty b = true ↔ Doc.noStatements b := by
  constructor
  · intro h
    unfold blockIsEmpty at h
    split at h
    · exact ⟨rfl, rfl⟩
    · cases h
  · obtain ⟨sp, ss, l⟩ := b
    rintro ⟨rfl, rfl⟩
    rfl

theorem mem_emptyReport {b : Block} {d g : Diag} : g ∈ (if blockIsEmpty b then [d] else []) ↔ Doc.noStatements b ∧ g = d := by
  rw [List.mem_ite_nil_right, blockIsEmpty_iff, List.mem_singleton]

theorem emptyElseIfs_sound {sp : Span} {els : OptBlock} {g : Diag} {l : List ElseIf} (h : g ∈ emptyElseIfs sp els l) :
    g.msg = msgElseIf ∧ ∃ e ∈ l, Doc.noStatements (elifBlock e) ∧ g.primary.first = (elifSpan e).first := by
  induction l with
  | nil => cases h
  | cons e rest ih =>
    obtain ⟨esp, c, b⟩ := e
    rcases List.mem_append.mp h with h | h
    · obtain ⟨hb, rfl⟩ := mem_emptyReport.mp h
      exact ⟨rfl, .mk esp c b, List.mem_cons_self .., hb, rfl⟩
    · obtain ⟨h1, e, he, h2⟩ := ih h
      exact ⟨h1, e, List.mem_cons_of_mem _ he, h2⟩

/-- soundness: every report designates a branch of an `if` statement that contains no statement at all -/
theorem empty_if_sound {P : Block} {g : Diag} (h : g ∈ run P) :
    ∃ sp c b elifs els, Node.stmt (.if_ sp c b elifs els) ∈ nBlock P ∧
      ((g.msg = msgIf ∧ g.primary = sp ∧ Doc.noStatements b) ∨
       (g.msg = msgElseIf ∧ ∃ e ∈ elifs.toList, Doc.noStatements (elifBlock e) ∧ g.primary.first = (elifSpan e).first) ∨
       (g.msg = msgElse ∧ ∃ eb, els = .some eb ∧ Doc.noStatements eb ∧ g.primary.last = sp.last)) := by
  obtain ⟨s, hn, hg⟩ := stmt_of_mem_flatMap h (fun _ => rfl) (fun _ => rfl) (fun _ => rfl)
  cases s
  case if_ sp c b elifs els =>
    refine ⟨sp, c, b, elifs, els, hn, ?_⟩
    obtain hg | hg | hg : _ ∨ _ ∨ _ := (List.mem_append.mp hg).imp_right List.mem_append.mp
    · obtain ⟨hb, rfl⟩ := mem_emptyReport.mp hg
      exact Or.inl ⟨rfl, rfl, hb⟩
    · exact Or.inr (Or.inl (emptyElseIfs_sound hg))
    · cases els with
      | none => cases hg
      | some eb =>
        obtain ⟨hb, rfl⟩ := mem_emptyReport.mp hg
        exact Or.inr (Or.inr ⟨rfl, eb, rfl, hb, rfl⟩)
  all_goals exact absurd hg List.not_mem_nil

/-- canonical `if a then end`, anywhere -/
theorem empty_if_canon_then {P : Block} {sp : Span} {c : Expr} {b : Block} {elifs : ElseIfList} {els : OptBlock}
    (hw : Within (.block P) (.stmt (.if_ sp c b elifs els))) (hb : Doc.noStatements b) :
    ∃ g ∈ run P, g.primary = sp ∧ g.msg = msgIf :=
  ⟨_, mem_run_of_within_stmt collect hw (List.mem_append_left _ (mem_emptyReport.mpr ⟨hb, rfl⟩)), rfl, rfl⟩

theorem emptyElseIfs_complete {sp : Span} {els : OptBlock} {e : ElseIf} {l : List ElseIf} (he : e ∈ l)
    (hb : Doc.noStatements (elifBlock e)) :
    ∃ g ∈ emptyElseIfs sp els l, g.primary.first = (elifSpan e).first ∧ g.msg = msgElseIf := by
  induction l with
  | nil => cases he
  | cons e' rest ih =>
    obtain ⟨esp, c, b⟩ := e'
    rcases List.mem_cons.mp he with rfl | he
    · exact ⟨_, List.mem_append_left _ (mem_emptyReport.mpr ⟨hb, rfl⟩), rfl, rfl⟩
    · obtain ⟨g, hg, h1, h2⟩ := ih he
      exact ⟨g, List.mem_append_right _ hg, h1, h2⟩

/-- canonical empty `elseif b then`, anywhere -/
theorem empty_if_canon_elseif {P : Block} {sp : Span} {c : Expr} {b : Block} {elifs : ElseIfList} {els : OptBlock} {e : ElseIf}
    (hw : Within (.block P) (.stmt (.if_ sp c b elifs els))) (he : e ∈ elifs.toList) (hb : Doc.noStatements (elifBlock e)) :
    ∃ g ∈ run P, g.primary.first = (elifSpan e).first ∧ g.msg = msgElseIf := by
  obtain ⟨g, hg, h1, h2⟩ := emptyElseIfs_complete (sp := sp) (els := els) he hb
  exact ⟨g, mem_run_of_within_stmt collect hw (List.mem_append_right _ (List.mem_append_left _ hg)), h1, h2⟩

/-- canonical empty `else`, anywhere -/
theorem empty_if_canon_else {P : Block} {sp : Span} {c : Expr} {b eb : Block} {elifs : ElseIfList}
    (hw : Within (.block P) (.stmt (.if_ sp c b elifs (.some eb)))) (hb : Doc.noStatements eb) :
    ∃ g ∈ run P, g.primary.last = sp.last ∧ g.msg = msgElse :=
  ⟨_, mem_run_of_within_stmt collect hw
    (List.mem_append_right _ (List.mem_append_right _ (mem_emptyReport.mpr ⟨hb, rfl⟩))), rfl, rfl⟩

example : Doc.noStatements (.mk none .nil .none) := ⟨rfl, rfl⟩

end EmptyIf

section EmptyLoop
open EmptyLoop

/-- `empty_loop` has its own copies of `block_is_empty` and of the documented condition -/
theorem loop_mem_emptyReport {b : Block} {d g : Diag} :
    g ∈ (if EmptyLoop.blockIsEmpty b then [d] else []) ↔ EmptyLoop.Doc.noStatements b ∧ g = d :=
  mem_emptyReport

/-- soundness: every report is a loop statement whose body contains no statement -/
theorem empty_loop_sound {P : Block} {g : Diag} (h : g ∈ EmptyLoop.run P) :
    ∃ s b, Node.stmt s ∈ nBlock P ∧ loopBody s = some b ∧ EmptyLoop.Doc.noStatements b ∧ g.primary = stmtSpan s := by
  obtain ⟨s, hn, hg⟩ := stmt_of_mem_flatMap h (fun _ => rfl) (fun _ => rfl) (fun _ => rfl)
  simp only [EmptyLoop.collect] at hg
  cases hl : loopBody s with
  | none => rw [hl] at hg; cases hg
  | some b =>
    rw [hl] at hg
    obtain ⟨hb, rfl⟩ := loop_mem_emptyReport.mp hg
    exact ⟨s, b, hn, hl, hb, rfl⟩

/-- canonical `for _ in {} do end` (any of the four loop forms), anywhere -/
theorem empty_loop_canon {P : Block} {s : Stmt} {b : Block}
    (hw : Within (.block P) (.stmt s)) (hl : loopBody s = some b) (hb : EmptyLoop.Doc.noStatements b) :
    ∃ g ∈ EmptyLoop.run P, g.primary = stmtSpan s := by
  refine ⟨{ code := "empty_loop", primary := stmtSpan s, msg := EmptyLoop.msg },
    mem_run_of_within_stmt EmptyLoop.collect hw ?_, rfl⟩
  simp only [EmptyLoop.collect, hl]
  exact loop_mem_emptyReport.mpr ⟨hb, rfl⟩

example : loopBody (.while_ ⟨0, 3⟩ (.true_ ⟨1, "true"⟩) (.mk none .nil .none)) = some (.mk none .nil .none) := rfl

end EmptyLoop

section IfSameThenElse
open IfSameThenElse

theorem same_block_scan_eq (toks : List String) (seps : List Nat) :
    scan toks seps = seenScan hasNoStmts (similar toks seps) fun o b =>
      { code := "if_same_then_else", primary := (blockSpan b).getD ⟨0, 0⟩, msg := IfSameThenElse.msg,
        secondary := [(blockSpan o).getD ⟨0, 0⟩] } := by
  -- `rfl` needs the compiled pieces of both unfolded (auxiliary names: another `match` in either `scan` renumbers them)
  delta scan seenScan scan._f seenScan._f scan.match_1 seenScan.match_1
  rfl

/-- soundness: a reported block has statements and is, token for token (trivia and table-field separators aside),
    another branch of the same `if` -/
theorem if_same_then_else_sound {toks : List String} {seps : List Nat} {P : Block} {g : Diag} (h : g ∈ run toks seps P) :
    ∃ sp c b elifs els x y, Node.stmt (.if_ sp c b elifs els) ∈ nBlock P ∧
      x ∈ b :: laterBlocks elifs els ∧ y ∈ laterBlocks elifs els ∧ hasNoStmts y = false ∧
      blockToks toks seps x = blockToks toks seps y ∧ g.primary = (blockSpan y).getD ⟨0, 0⟩ ∧ g.secondary = [(blockSpan x).getD ⟨0, 0⟩] := by
  obtain ⟨s, hn, hg⟩ := stmt_of_mem_flatMap h (fun _ => rfl) (fun _ => rfl) (fun _ => rfl)
  cases s
  case if_ sp c b elifs els =>
    have hseen : ∀ x ∈ [b], x ∈ b :: laterBlocks elifs els := fun x hx => List.mem_singleton.mp hx ▸ List.mem_cons_self ..
    have hlater : ∀ y ∈ laterBlocks elifs els, hasNoStmts y = false → y ∈ b :: laterBlocks elifs els ∧ y ∈ laterBlocks elifs els :=
      fun y hy _ => ⟨List.mem_cons_of_mem _ hy, hy⟩
    replace hg : g ∈ scan toks seps [b] (laterBlocks elifs els) := hg
    rw [same_block_scan_eq] at hg
    obtain ⟨x, y, hx, hy, hs, hsim, rfl⟩ := seen_scan_sound hseen hlater hg
    exact ⟨sp, c, b, elifs, els, x, y, hn, hx, hy, hs, eq_of_beq hsim, rfl, rfl⟩
  all_goals exact absurd hg List.not_mem_nil

/-- canonical `if foo then B else B end` (B with at least one statement), anywhere -/
theorem if_same_then_else_canon {toks : List String} {seps : List Nat} {P : Block} {sp : Span} {c : Expr} {b eb : Block}
    (hw : Within (.block P) (.stmt (.if_ sp c b .nil (.some eb)))) (hs : hasNoStmts eb = false)
    (heq : blockToks toks seps b = blockToks toks seps eb) :
    ∃ g ∈ run toks seps P, g.primary = (blockSpan eb).getD ⟨0, 0⟩ ∧ g.secondary = [(blockSpan b).getD ⟨0, 0⟩] := by
  refine ⟨{ code := "if_same_then_else", primary := (blockSpan eb).getD ⟨0, 0⟩, msg := IfSameThenElse.msg,
            secondary := [(blockSpan b).getD ⟨0, 0⟩] }, ?_, rfl, rfl⟩
  refine mem_run_of_within_stmt (collect toks seps) hw ?_
  show _ ∈ scan toks seps [b] [eb]
  have hf : [b].find? (fun o => similar toks seps o eb) = some b := List.find?_cons_of_pos (beq_iff_eq.mpr heq)
  rw [same_block_scan_eq, seen_scan_report hs hf]
  exact .head _

end IfSameThenElse

section IfsSameCond
open IfsSameCond SideEffects

/-- `side_effects.rs` is exactly the documented "evaluating it performs a call" test -/
theorem exprSE_eq_doc (e : Expr) : exprSE e = Doc.callsE e := by
  -- both unfold to the same recursor application (`true && x` computes to `x`)
  delta exprSE Doc.callsE Doc.calls
  rfl

theorem fieldsSE_eq : ∀ fs : FieldList, fieldsSE fs = Doc.callsFs true fs := by
  intro fs
  delta fieldsSE Doc.callsFs
  rfl

theorem fieldSE_eq : ∀ f : Field, fieldSE f = Doc.callsF true f := by
  intro f
  delta fieldSE Doc.callsF
  rfl

theorem varSE_eq : ∀ v : Var, varSE v = Doc.callsV true v := by
  intro v
  delta varSE Doc.callsV
  rfl

theorem prefixSE_eq : ∀ p : Prefix, prefixSE p = Doc.callsP true p := by
  intro p
  delta prefixSE Doc.callsP
  rfl

theorem suffixesSE_eq : ∀ ss : SuffixList, suffixesSE ss = Doc.callsSs true ss := by
  intro ss
  delta suffixesSE Doc.callsSs
  rfl

theorem suffixSE_eq : ∀ s : Suffix, suffixSE s = Doc.callsS true s := by
  intro s
  delta suffixSE Doc.callsS
  rfl

theorem same_cond_scan_eq (toks : List String) (seps : List Nat) :
    scan toks seps = seenScan exprSE (similar toks seps) fun o c =>
      { code := "ifs_same_cond", primary := c.span, msg := IfsSameCond.msg, secondary := [o.span] } := by
  delta scan seenScan scan._f seenScan._f scan.match_1 seenScan.match_1
  rfl

/-- soundness: a reported condition repeats, token for token, another condition of the same `if`, and neither
    performs a function call anywhere (the documented exclusion) -/
theorem ifs_same_cond_sound {toks : List String} {seps : List Nat} {P : Block} {g : Diag} (h : g ∈ run toks seps P) :
    ∃ sp c b elifs els x y, Node.stmt (.if_ sp c b elifs els) ∈ nBlock P ∧
      x ∈ c :: elifs.toList.map elifCond ∧ y ∈ elifs.toList.map elifCond ∧
      simToks toks seps x.span = simToks toks seps y.span ∧ g.primary = y.span ∧ g.secondary = [x.span] ∧
      Doc.callsE x = false ∧ Doc.callsE y = false := by
  obtain ⟨s, hn, hg⟩ := stmt_of_mem_flatMap h (fun _ => rfl) (fun _ => rfl) (fun _ => rfl)
  cases s
  case if_ sp c b elifs els =>
    have hseen : ∀ x ∈ (if exprSE c then [] else [c]), x ∈ c :: elifs.toList.map elifCond ∧ exprSE x = false := fun x hx => by
      obtain ⟨hc, hx⟩ := List.mem_ite_nil_left.mp hx
      obtain rfl := List.mem_singleton.mp hx
      exact ⟨List.mem_cons_self .., Bool.eq_false_iff.mpr hc⟩
    have hlater : ∀ y ∈ elifs.toList.map elifCond, exprSE y = false →
        (y ∈ c :: elifs.toList.map elifCond ∧ exprSE y = false) ∧ y ∈ elifs.toList.map elifCond :=
      fun y hy hs => ⟨⟨List.mem_cons_of_mem _ hy, hs⟩, hy⟩
    replace hg : g ∈ scan toks seps (if exprSE c then [] else [c]) (elifs.toList.map elifCond) := hg
    rw [same_cond_scan_eq] at hg
    obtain ⟨x, y, hx, hy, hs, hsim, rfl⟩ := seen_scan_sound hseen hlater hg
    exact ⟨sp, c, b, elifs, els, x, y, hn, hx.1, hy, eq_of_beq hsim, rfl, rfl, exprSE_eq_doc x ▸ hx.2, exprSE_eq_doc y ▸ hs⟩
  all_goals exact absurd hg List.not_mem_nil

/-- `if a[f()] then elseif a[f()] then end`, tokens `if a [ f ( ) ] then elseif a [ f ( ) ] then end` -/
def indexCallCond (i : Nat) : Expr :=
  .var (.expr ⟨i, i + 4⟩ (.name ⟨i, "a"⟩) (.cons (.idx ⟨i + 1, i + 4⟩
    (.call (.mk ⟨i + 2, i + 4⟩ (.name ⟨i + 2, "f"⟩) (.cons (.args ⟨i + 3, i + 4⟩ (.parens ⟨i + 3, i + 4⟩ .nil)) .nil)))) .nil))

def indexCallProgram : Block :=
  .mk (some ⟨0, 16⟩) (.cons (.if_ ⟨0, 16⟩ (indexCallCond 1) (.mk none .nil .none)
    (.cons (.mk ⟨8, 15⟩ (indexCallCond 9) (.mk none .nil .none)) .nil) .none) .nil) .none

def indexCallToks : List String :=
  ["if", "a", "[", "f", "(", ")", "]", "then", "elseif", "a", "[", "f", "(", ")", "]", "then", "end"]

/-- a call inside a bracket index is a call: the repeated condition is not reported (/repo 7d0e4db) -/
theorem ifs_same_cond_index_not_reported :
    run indexCallToks [] indexCallProgram = [] ∧ Doc.callsE (indexCallCond 9) = true := by
  decide

theorem bor_mono {a a' b b' : Bool} (ha : a = true → a' = true) (hb : b = true → b' = true) :
    (a || b) = true → (a' || b') = true := by
  rw [Bool.or_eq_true, Bool.or_eq_true]
  exact Or.imp ha hb

mutual
theorem calls_mono : ∀ e : Expr, Doc.calls false e = true → Doc.calls true e = true
  | .bin _ l _ r => bor_mono (calls_mono l) (calls_mono r)
  | .paren _ e => calls_mono e
  | .un _ _ e => calls_mono e
  | .tbl _ fs => callsFs_mono fs
  | .var v => callsV_mono v
  | .call _ | .unsupported _ | .func _ _ _ | .num _ | .str _ _ _ | .nil _ | .true_ _ | .false_ _ | .dots _ => id
theorem callsFs_mono : ∀ fs : FieldList, Doc.callsFs false fs = true → Doc.callsFs true fs = true
  | .nil => id
  | .cons f rest => bor_mono (callsF_mono f) (callsFs_mono rest)
theorem callsF_mono : ∀ f : Field, Doc.callsF false f = true → Doc.callsF true f = true
  | .exprKey _ k v => bor_mono (calls_mono k) (calls_mono v)
  | .nameKey _ _ v => calls_mono v
  | .noKey v => calls_mono v
  | .unsupported _ => id
theorem callsV_mono : ∀ v : Var, Doc.callsV false v = true → Doc.callsV true v = true
  | .name _ => id
  | .expr _ p ss => bor_mono (callsP_mono p) (callsSs_mono ss)
theorem callsP_mono : ∀ p : Prefix, Doc.callsP false p = true → Doc.callsP true p = true
  | .expr e => calls_mono e
  | .name _ => id
theorem callsSs_mono : ∀ ss : SuffixList, Doc.callsSs false ss = true → Doc.callsSs true ss = true
  | .nil => id
  | .cons s rest => bor_mono (callsS_mono s) (callsSs_mono rest)
theorem callsS_mono : ∀ s : Suffix, Doc.callsS false s = true → Doc.callsS true s = true
  | .args _ _ | .meth _ _ _ | .dot _ _ | .unsupported _ => id
  | .idx _ _ => fun h => Bool.noConfusion h
end

/-- canonical `if foo then … elseif foo then … end` (conditions that perform no call), anywhere -/
theorem ifs_same_cond_canon {toks : List String} {seps : List Nat} {P : Block} {sp esp : Span} {c c2 : Expr} {b b2 : Block}
    {rest : ElseIfList} {els : OptBlock}
    (hw : Within (.block P) (.stmt (.if_ sp c b (.cons (.mk esp c2 b2) rest) els)))
    (hc : Doc.callsE c = false) (hc2 : Doc.callsE c2 = false)
    (heq : simToks toks seps c.span = simToks toks seps c2.span) :
    ∃ g ∈ run toks seps P, g.primary = c2.span ∧ g.secondary = [c.span] := by
  refine ⟨{ code := "ifs_same_cond", primary := c2.span, msg := IfsSameCond.msg, secondary := [c.span] }, ?_, rfl, rfl⟩
  refine mem_run_of_within_stmt (collect toks seps) hw ?_
  show _ ∈ scan toks seps (if exprSE c then [] else [c]) (c2 :: rest.toList.map elifCond)
  have hf : [c].find? (fun o => similar toks seps o c2) = some c := List.find?_cons_of_pos (beq_iff_eq.mpr heq)
  rw [exprSE_eq_doc, hc, if_neg Bool.false_ne_true, same_cond_scan_eq, seen_scan_report (exprSE_eq_doc c2 ▸ hc2) hf]
  exact .head _

example : Doc.callsE (.var (.name ⟨1, "foo"⟩)) = false := by decide

end IfsSameCond

section Mismatched
open MismatchedArgCount

theorem ov_vl (x : PCount) : overlap .variable x = .variable := rfl
theorem ov_vr (x : PCount) : overlap x .variable = .variable := by cases x <;> rfl
theorem ov_ff (a b : Nat) : overlap (.fixed a) (.fixed b) = .fixed (max a b) :=
  ite_eq_right_iff.mpr fun h => by rw [h, Nat.max_self]
theorem ov_fm (f m : Nat) : overlap (.fixed f) (.minimum m) = .minimum (min m f) := rfl
theorem ov_mf (f m : Nat) : overlap (.minimum m) (.fixed f) = .minimum (min m f) := rfl
theorem ov_mm (a b : Nat) : overlap (.minimum a) (.minimum b) = .minimum (min a b) := rfl

theorem overlap_comm (a b : PCount) : overlap a b = overlap b a := by
  cases a <;> cases b
  case fixed.fixed a b => rw [ov_ff, ov_ff, Nat.max_comm]
  case minimum.minimum a b => exact congrArg PCount.minimum (Nat.min_comm a b)
  all_goals rfl

theorem overlap_idem (a : PCount) : overlap a a = a :=
  match a with
  | .fixed a => (ov_ff a a).trans (congrArg PCount.fixed (Nat.max_self a))
  | .minimum a => congrArg PCount.minimum (Nat.min_self a)
  | .variable => rfl

/-- the join's meaning: the overlap accepts a call iff one of the two definitions does -/
theorem accepts_overlap (a b : PCount) (p : Passed) : accepts (overlap a b) p = (accepts a p || accepts b p) := by
  cases a <;> cases b
  case fixed.fixed a b => cases p <;> simp only [ov_ff, accepts, Std.le_max, Bool.decide_or]
  -- only a `fixed` count rejects anything
  case fixed.minimum | fixed.variable => exact (Bool.or_true _).symm
  all_goals rfl

/-- associativity holds for what the join is used for (which calls are accepted) … -/
theorem overlap_assoc_accepts (a b c : PCount) (p : Passed) :
    accepts (overlap (overlap a b) c) p = accepts (overlap a (overlap b c)) p := by
  simp only [accepts_overlap, Bool.or_assoc]

/-- … but not as an equation between counts: `f(a)`, `f(a, b, c)`, `f(a, b, c, d, e, ...)` join to `Minimum(3)` or
    `Minimum(1)` depending on the order (both accept every call, and a `Minimum` count is never printed) -/
theorem overlap_not_assoc :
    overlap (overlap (.fixed 1) (.fixed 3)) (.minimum 5) ≠ overlap (.fixed 1) (overlap (.fixed 3) (.minimum 5)) := by decide

/-- the entry of the definition map for a variable against the counts recorded for it -/
def Joins : Option PCount → List PCount → Prop
  | none, l => l = []
  | some pc, l => l ≠ [] ∧ ∀ p, accepts pc p = l.any (accepts · p)

theorem Joins.single (c : PCount) : Joins (some c) [c] :=
  ⟨List.cons_ne_nil _ _, fun _ => (Bool.or_false _).symm⟩

theorem Joins.snoc {o : Option PCount} {acc : List PCount} (h : Joins o acc) (c : PCount) :
    Joins (some (o.elim c (overlap c))) (acc ++ [c]) := by
  cases o with
  | none => cases h; exact .single c
  | some older => exact ⟨by simp, fun p => by simp [accepts_overlap, h.2, Bool.or_comm]⟩

theorem applyEv_eq (m : Defs) (ev : Ev) :
    applyEv m ev = m.set ev.var (if ev.insert then ev.count else (m ev.var).elim ev.count (overlap ev.count)) := by
  unfold applyEv
  split
  · rfl
  · split <;> simp only [*, Option.elim]

theorem build_joins (v : Nat) (evs : List Ev) : Joins (build evs v) (recorded v evs) := by
  refine List.foldl_rel (r := fun (m : Defs) acc => Joins (m v) acc) (Eq.refl []) fun ev _ m acc h => ?_
  rw [applyEv_eq, Defs.set]
  by_cases hv : ev.var = v
  · subst hv
    simp only [if_true]
    cases ev.insert with
    | true => exact .single _
    | false => exact h.snoc _
  · simp only [if_neg hv, if_neg (Ne.symm hv)]
    exact h

theorem callee_defs {σ : Selene.Scope.St} {defs : Defs} {c : FCall} {v : Nat} {pc : PCount} {a : Args}
    (h : callee σ defs c = some (v, pc, a)) : defs v = some pc := by
  unfold callee at h
  split at h
  · split at h
    · obtain ⟨_, hd, he⟩ := Option.map_eq_some_iff.mp h
      cases he
      exact hd
    · cases h
  · cases h

/-- soundness: a reported call names a variable for which the first pass recorded at least one function definition,
    and **every** definition recorded for it (since its declaration) rejects the call -/
theorem mismatched_arg_count_sound {σ : Selene.Scope.St} {P : Block} {g : Diag} (h : g ∈ runWith σ P) :
    ∃ c v pc a, Node.call c ∈ nBlock P ∧ callee σ (build (events σ (nBlock P))) c = some (v, pc, a) ∧ g.primary = c.span ∧
      recorded v (events σ (nBlock P)) ≠ [] ∧
      ∀ d ∈ recorded v (events σ (nBlock P)), accepts d (passedOf a) = false := by
  obtain ⟨n, hn, hg⟩ := List.mem_flatMap.mp h
  unfold checkCall at hg
  split at hg
  · rename_i c
    split at hg
    · rename_i v pc a hc
      split at hg
      · cases hg
      · rename_i hacc
        obtain rfl := List.mem_singleton.mp hg
        have hj := build_joins v (events σ (nBlock P))
        rw [callee_defs hc] at hj
        refine ⟨c, v, pc, a, hn, hc, rfl, hj.1, ?_⟩
        rw [Bool.not_eq_true, hj.2, List.any_eq_false] at hacc
        exact fun d hd => Bool.not_eq_true _ ▸ hacc d hd
    · cases hg
  · cases hg

/-- canonical `local function foo(a, b) end … foo(1, 2, 3)`: a call, anywhere in the program, whose name resolves
    to a variable with a recorded fixed count smaller than the number of arguments is reported -/
theorem mismatched_arg_count_canon {σ : Selene.Scope.St} {P : Block} {c : FCall} {v r : Nat} {a : Args}
    (hw : Within (.block P) (.fcall c))
    (hc : callee σ (build (events σ (nBlock P))) c = some (v, .fixed r, a))
    (hmany : accepts (.fixed r) (passedOf a) = false) :
    ∃ g ∈ runWith σ P, g.primary = c.span := by
  refine ⟨{ code := "mismatched_arg_count", primary := c.span, msg := toMessage (.fixed r) (passedOf a),
            secondary := definitionRanges σ (nBlock P) v }, ?_, rfl⟩
  refine List.mem_flatMap.mpr ⟨.call c, within_fcall_mem hw, ?_⟩
  simp only [checkCall, hc, hmany, Bool.false_eq_true, ↓reduceIte, List.mem_singleton]

example : accepts (.fixed 2) (passedOf (.parens ⟨0, 6⟩ (.cons (.num ⟨1, "1"⟩) (.cons (.num ⟨3, "0x2"⟩) (.cons (.num ⟨5, "3.0"⟩) .nil))))) = false := by
  decide

end Mismatched

section AlmostSwapped
open AlmostSwapped SideEffects

theorem candidate_shape {s : Stmt} {v : Var} {e : Expr} (h : candidate s = some (v, e)) :
    ∃ sp, s = .assign sp (.cons v .nil) (.cons e .nil) := by
  unfold candidate at h
  split at h
  · split at h
    · cases h
    · cases h; exact ⟨_, rfl⟩
  · cases h

theorem swap_scan_skip {toks : List String} {s : Stmt} (h : candidate s = none) (st : Option Swap) (rest : List Stmt) :
    scan toks st (s :: rest) = scan toks none rest := by
  simp only [scan, h]

theorem swap_scan_remember {toks : List String} {s : Stmt} {v : Var} {e : Expr} (h : candidate s = some (v, e))
    (st : Option Swap) (hst : st.any (completes toks · v e) = false) (rest : List Stmt) :
    scan toks st (s :: rest) = scan toks (some (remember toks s v e)) rest := by
  cases st with
  | none => simp only [scan, h]
  | some ls => simp only [scan, h, show completes toks ls v e = false from hst]; rfl

theorem swap_scan_report {toks : List String} {s : Stmt} {v : Var} {e : Expr} {ls : Swap} (h : candidate s = some (v, e))
    (hm : completes toks ls v e = true) (rest : List Stmt) :
    scan toks (some ls) (s :: rest) =
      { code := "almost_swapped", primary := ⟨ls.start, e.span.last⟩, msg := AlmostSwapped.msg ls.names } :: scan toks none rest := by
  simp only [scan, h, hm, if_true]

theorem swapPair_of_completes {toks : List String} {s1 s2 : Stmt} {v1 v2 : Var} {e1 e2 : Expr}
    (h1 : candidate s1 = some (v1, e1)) (h2 : candidate s2 = some (v2, e2))
    (hm : completes toks (remember toks s1 v1 e1) v2 e2 = true) : Doc.swapPair toks s1 s2 := by
  obtain ⟨sp1, rfl⟩ := candidate_shape h1
  obtain ⟨sp2, rfl⟩ := candidate_shape h2
  simp only [completes, remember, Bool.and_eq_true, beq_iff_eq] at hm
  exact ⟨v1, e1, v2, e2, sp1, sp2, rfl, rfl, hm.1.symm, hm.2.symm⟩

/-- `p` is what has been scanned; `st`, if any, remembers its last statement -/
theorem swap_scan_sound {toks : List String} {g : Diag} {p rest : List Stmt} {st : Option Swap}
    (hst : st = none ∨ ∃ q s1 v1 e1, p = q ++ [s1] ∧ candidate s1 = some (v1, e1) ∧ st = some (remember toks s1 v1 e1))
    (h : g ∈ scan toks st rest) :
    ∃ q s1 s2 r, p ++ rest = q ++ s1 :: s2 :: r ∧ Doc.swapPair toks s1 s2 ∧ g.primary.first = (stmtSpan s1).first := by
  induction rest generalizing p st with
  | nil => cases h
  | cons s rest ih =>
    rw [List.append_cons]
    cases hc : candidate s with
    | none => exact ih (.inl rfl) (swap_scan_skip hc .. ▸ h)
    | some ve =>
      cases hm : st.any (completes toks · ve.1 ve.2) with
      | false =>
        rw [swap_scan_remember hc st hm] at h
        exact ih (.inr ⟨p, s, ve.1, ve.2, rfl, hc, rfl⟩) h
      | true =>
        obtain ⟨ls, rfl, hm⟩ := (Option.any_eq_true ..).mp hm
        rw [swap_scan_report hc hm] at h
        rcases List.mem_cons.mp h with rfl | h
        · obtain hn | ⟨q, s1, v1, e1, rfl, h1, hls⟩ := hst
          · cases hn
          · cases hls
            exact ⟨q, s1, s, rest, by simp, swapPair_of_completes h1 hc hm, rfl⟩
        · exact ih (.inl rfl) h

/-- soundness = the documented condition: a report covers two adjacent statements of one block that are a
    `foo = bar` `bar = foo` sequence, token for token -/
theorem almost_swapped_sound {toks : List String} {P : Block} {g : Diag} (h : g ∈ run toks P) :
    ∃ b p s1 s2 q, Node.block b ∈ nBlock P ∧ (blockStmts b).toList = p ++ s1 :: s2 :: q ∧ Doc.swapPair toks s1 s2 ∧
      g.primary.first = (stmtSpan s1).first := by
  obtain ⟨n, hn, hg⟩ := List.mem_flatMap.mp h
  cases n with
  | block b =>
    obtain ⟨p, s1, s2, q, r⟩ := swap_scan_sound (p := []) (.inl rfl) hg
    exact ⟨b, p, s1, s2, q, hn, r⟩
  | stmt _ | last _ | call _ => cases hg

theorem swap_scan_cons (toks : List String) (st : Option Swap) (s : Stmt) :
    ∃ d st', ∀ rest, scan toks st (s :: rest) = d ++ scan toks st' rest := by
  cases hc : candidate s with
  | none => exact ⟨[], none, swap_scan_skip hc st⟩
  | some ve =>
    cases hm : st.any (completes toks · ve.1 ve.2) with
    | false => exact ⟨[], _, swap_scan_remember hc st hm⟩
    | true =>
      obtain ⟨ls, rfl, hm⟩ := (Option.any_eq_true ..).mp hm
      exact ⟨[_], none, swap_scan_report hc hm⟩

theorem swap_scan_append (toks : List String) (bs : List Stmt) (st : Option Swap) :
    ∃ d st', ∀ l, scan toks st (bs ++ l) = d ++ scan toks st' l := by
  induction bs generalizing st with
  | nil => exact ⟨[], st, fun _ => rfl⟩
  | cons s bs ih =>
    obtain ⟨d₁, st₁, h₁⟩ := swap_scan_cons toks st s
    obtain ⟨d₂, st₂, h₂⟩ := ih st₁
    exact ⟨d₁ ++ d₂, st₂, fun l => by rw [List.cons_append, h₁, h₂, List.append_assoc]⟩

theorem mem_run_of_scan {toks : List String} {P b : Block} {before l : List Stmt} {d : List Diag} {st' : Option Swap} {g : Diag}
    (hw : Within (.block P) (.block b)) (hb : (blockStmts b).toList = before ++ l)
    (hd : ∀ l, scan toks none (before ++ l) = d ++ scan toks st' l) (hg : g ∈ scan toks st' l) : g ∈ run toks P := by
  refine List.mem_flatMap.mpr ⟨.block b, within_block_mem hw, ?_⟩
  simp only [collect, hb, hd]
  exact List.mem_append_right _ hg

theorem scan_pair {toks : List String} (st : Option Swap) {after : List Stmt} {s1 s2 : Stmt} {v1 v2 : Var} {e1 e2 : Expr}
    (h1 : candidate s1 = some (v1, e1)) (h2 : candidate s2 = some (v2, e2))
    (ht1 : nodeToks toks e2.span = nodeToks toks v1.span) (ht2 : nodeToks toks v2.span = nodeToks toks e1.span) :
    ∃ g ∈ scan toks st (s1 :: s2 :: after),
      g.primary = ⟨(stmtSpan s1).first, e2.span.last⟩ ∨ st.isSome = true ∧ g.primary.last = e1.span.last := by
  have hcomp : completes toks (remember toks s1 v1 e1) v2 e2 = true := by
    simp [completes, remember, ht1, ht2]
  cases hm : st.any (completes toks · v1 e1) with
  | false =>
    rw [swap_scan_remember h1 st hm, swap_scan_report h2 hcomp]
    exact ⟨_, List.Mem.head _, Or.inl rfl⟩
  | true =>
    obtain ⟨ls, rfl, hm⟩ := (Option.any_eq_true ..).mp hm
    rw [swap_scan_report h1 hm]
    exact ⟨_, List.Mem.head _, Or.inr ⟨rfl, rfl⟩⟩

/-- canonical `a = b` `b = a` in any block anywhere in the program, whatever precedes it: the pair is reported — or
    its first statement already closes a reported swap with the statement before it (`b = a` `a = b` `b = a`) -/
theorem almost_swapped_canon {toks : List String} {P b : Block} {before after : List Stmt} {s1 s2 : Stmt} {v1 v2 : Var} {e1 e2 : Expr}
    (hw : Within (.block P) (.block b)) (hb : (blockStmts b).toList = before ++ s1 :: s2 :: after)
    (h1 : candidate s1 = some (v1, e1)) (h2 : candidate s2 = some (v2, e2))
    (ht1 : nodeToks toks e2.span = nodeToks toks v1.span) (ht2 : nodeToks toks v2.span = nodeToks toks e1.span) :
    ∃ g ∈ run toks P, g.primary = ⟨(stmtSpan s1).first, e2.span.last⟩ ∨ g.primary.last = e1.span.last := by
  obtain ⟨d, st', hd⟩ := swap_scan_append toks before none
  obtain ⟨g, hg, hp⟩ := scan_pair st' h1 h2 ht1 ht2
  exact ⟨g, mem_run_of_scan hw hb hd hg, hp.imp_right And.right⟩

/-- at the start of a block, or after a statement that is not a single assignment, it is the pair itself -/
theorem almost_swapped_canon_fresh {toks : List String} {P b : Block} {before after : List Stmt} {s1 s2 : Stmt} {v1 v2 : Var} {e1 e2 : Expr}
    (hw : Within (.block P) (.block b)) (hb : (blockStmts b).toList = before ++ s1 :: s2 :: after)
    (h1 : candidate s1 = some (v1, e1)) (h2 : candidate s2 = some (v2, e2))
    (ht1 : nodeToks toks e2.span = nodeToks toks v1.span) (ht2 : nodeToks toks v2.span = nodeToks toks e1.span)
    (hpre : before = [] ∨ ∃ bs x, before = bs ++ [x] ∧ candidate x = none) :
    ∃ g ∈ run toks P, g.primary = ⟨(stmtSpan s1).first, e2.span.last⟩ := by
  -- nothing is remembered when the pair is met
  obtain ⟨d, hd⟩ : ∃ d, ∀ l, scan toks none (before ++ l) = d ++ scan toks none l := by
    rcases hpre with rfl | ⟨bs, x, rfl, hx⟩
    · exact ⟨[], fun _ => rfl⟩
    · obtain ⟨d, st', h⟩ := swap_scan_append toks bs none
      exact ⟨d, fun l => by rw [List.append_assoc, h, List.singleton_append, swap_scan_skip hx]⟩
  obtain ⟨g, hg, hp⟩ := scan_pair none h1 h2 ht1 ht2
  exact ⟨g, mem_run_of_scan hw hb hd hg, hp.resolve_right fun h => Bool.false_ne_true h.1⟩

/-- `x = y` `a = b` `b = a` (tokens 0‥8): `a = b`, not completing a swap with `x = y`, is remembered (/repo 820d472) -/
def missProgram : Block :=
  let asg (i : Nat) (a b : String) : Stmt := .assign ⟨i, i + 2⟩ (.cons (.name ⟨i, a⟩) .nil) (.cons (.var (.name ⟨i + 2, b⟩)) .nil)
  .mk (some ⟨0, 8⟩) (.cons (asg 0 "x" "y") (.cons (asg 3 "a" "b") (.cons (asg 6 "b" "a") .nil))) .none

theorem almost_swapped_after_assignment_reported :
    (run ["x", "=", "y", "a", "=", "b", "b", "=", "a"] missProgram).map (·.primary) = [⟨3, 8⟩] := by
  decide +kernel

/-- `aandb = x` `x = a and b`: the comparison is token by token, not of the glued texts (/repo 7450b57) -/
def glueProgram : Block :=
  .mk (some ⟨0, 7⟩) (.cons (.assign ⟨0, 2⟩ (.cons (.name ⟨0, "aandb"⟩) .nil) (.cons (.var (.name ⟨2, "x"⟩)) .nil))
    (.cons (.assign ⟨3, 7⟩ (.cons (.name ⟨3, "x"⟩) .nil)
      (.cons (.bin ⟨5, 7⟩ (.var (.name ⟨5, "a"⟩)) ⟨6, "and"⟩ (.var (.name ⟨7, "b"⟩))) .nil)) .nil)) .none

theorem almost_swapped_glued_not_reported :
    run ["aandb", "=", "x", "x", "=", "a", "and", "b"] glueProgram = [] := by
  decide +kernel

end AlmostSwapped

section MultipleStatements
open MultipleStatements

/-- a statement or last-statement node (the two hooks of the lint) -/
def stmtish : Node → Prop
  | .stmt _ | .last _ => True
  | _ => False

def nodeSpan : Node → Span
  | .stmt s => stmtSpan s
  | .last l => lastSpan l
  | _ => ⟨0, 0⟩

theorem lintStmt_cases (layout : Layout) (σ : St) (sp : Span) :
    let L := endLine layout sp.last
    (L ∈ σ.lines ∧ lintStmt layout σ sp =
        { σ with diags := σ.diags ++ [{ code := "multiple_statements", primary := sp, msg := MultipleStatements.msg }] }) ∨
    L ∉ σ.lines ∧
      ((L ∈ σ.ifLines ∧ lintStmt layout σ sp = { σ with ifLines := σ.ifLines.filter (· != L) }) ∨
       (L ∉ σ.ifLines ∧ lintStmt layout σ sp = { σ with lines := L :: σ.lines })) := by
  intro L
  unfold lintStmt
  simp only [List.contains_iff_mem]
  by_cases h1 : L ∈ σ.lines
  · exact .inl ⟨h1, if_pos h1⟩
  refine .inr ⟨h1, ?_⟩
  rw [if_neg h1]
  by_cases h2 : L ∈ σ.ifLines
  · exact .inl ⟨h2, if_pos h2⟩
  · exact .inr ⟨h2, if_neg h2⟩

theorem lintStmt_third (layout : Layout) (σ : St) {sp1 sp2 sp3 : Span}
    (h12 : endLine layout sp1.last = endLine layout sp2.last) (h23 : endLine layout sp2.last = endLine layout sp3.last) :
    { code := "multiple_statements", primary := sp3, msg := MultipleStatements.msg } ∈
      (lintStmt layout (lintStmt layout (lintStmt layout σ sp1) sp2) sp3).diags := by
  have a1 : endLine layout sp1.last ∈ (lintStmt layout σ sp1).lines ∨ endLine layout sp1.last ∉ (lintStmt layout σ sp1).ifLines := by
    rcases lintStmt_cases layout σ sp1 with ⟨hin, e⟩ | ⟨_, ⟨_, e⟩ | ⟨_, e⟩⟩ <;> rw [e]
    · exact .inl hin
    · exact .inr (by simp)
    · exact .inl (List.mem_cons_self ..)
  generalize lintStmt layout σ sp1 = σ1 at a1
  have a2 : endLine layout sp2.last ∈ (lintStmt layout σ1 sp2).lines := by
    rcases lintStmt_cases layout σ1 sp2 with ⟨hin, e⟩ | ⟨hnl, ⟨hil, _⟩ | ⟨_, e⟩⟩
    · rw [e]; exact hin
    · rw [← h12] at hnl hil
      exact (a1.elim hnl (· hil)).elim
    · rw [e]; exact List.mem_cons_self ..
  generalize lintStmt layout σ1 sp2 = σ2 at a2
  rcases lintStmt_cases layout σ2 sp3 with ⟨_, e⟩ | ⟨hnl, _⟩
  · rw [e]; exact List.mem_concat_self
  · exact (hnl (h23 ▸ a2)).elim

theorem prepareIf_eq (layout : Layout) (σ : St) (c : Expr) (b : Block) :
    ∃ il, prepareIf layout σ c b = { σ with ifLines := il } := by
  unfold prepareIf
  split <;> exact ⟨_, rfl⟩

theorem step_stmtish (layout : Layout) (σ : St) (n : Node) (hn : stmtish n) :
    ∃ il, step layout σ n = lintStmt layout { σ with ifLines := il } (nodeSpan n) := by
  cases n with
  | stmt s =>
    cases s
    case if_ sp c b e1 e2 => exact (prepareIf_eq layout σ c b).imp fun _ h => congrArg (lintStmt layout · _) h
    all_goals exact ⟨σ.ifLines, rfl⟩
  | last l => exact ⟨σ.ifLines, rfl⟩
  | block _ | call _ => exact hn.elim

theorem step_plain (layout : Layout) (σ : St) (n : Node) (hn : ¬ stmtish n) : step layout σ n = σ := by
  cases n with
  | stmt _ | last _ => exact (hn trivial).elim
  | block _ | call _ => rfl

/-- invariant of the fold: every recorded line is the end line of a statement seen so far; every diagnostic is a
    statement seen so far, preceded by a statement that ends on the same line -/
def Inv (layout : Layout) (pre : List Node) (σ : St) : Prop :=
  (∀ L ∈ σ.lines, ∃ m ∈ pre, stmtish m ∧ endLine layout (nodeSpan m).last = L) ∧
  (∀ d ∈ σ.diags, ∃ p n q, pre = p ++ n :: q ∧ stmtish n ∧ d.primary = nodeSpan n ∧
      ∃ m ∈ p, stmtish m ∧ endLine layout (nodeSpan m).last = endLine layout d.primary.last)

theorem Inv.extend {layout : Layout} {pre : List Node} {σ : St} (h : Inv layout pre σ) (n : Node) : Inv layout (pre ++ [n]) σ := by
  refine ⟨fun L hL => ?_, fun d hd => ?_⟩
  · obtain ⟨m, hm, r⟩ := h.1 L hL
    exact ⟨m, List.mem_append_left _ hm, r⟩
  · obtain ⟨p, n', q, hp, r⟩ := h.2 d hd
    exact ⟨p, n', q ++ [n], by rw [hp, List.append_assoc, List.cons_append], r⟩

theorem Inv.step {layout : Layout} {pre : List Node} {σ : St} (h : Inv layout pre σ) (n : Node) :
    Inv layout (pre ++ [n]) (step layout σ n) := by
  by_cases hn : stmtish n
  · obtain ⟨il, hs⟩ := step_stmtish layout σ n hn
    rw [hs]
    have h0 : Inv layout (pre ++ [n]) { σ with ifLines := il } := h.extend n
    rcases lintStmt_cases layout { σ with ifLines := il } (nodeSpan n) with ⟨hin, e⟩ | ⟨_, ⟨_, e⟩ | ⟨_, e⟩⟩ <;> rw [e]
    · obtain ⟨m, hm⟩ := h.1 _ hin
      exact ⟨h0.1, List.forall_mem_append.mpr ⟨h0.2, List.forall_mem_singleton.mpr ⟨pre, n, [], rfl, hn, rfl, m, hm⟩⟩⟩
    · exact h0
    · exact ⟨List.forall_mem_cons.mpr ⟨⟨n, List.mem_concat_self, hn, rfl⟩, h0.1⟩, h0.2⟩
  · rw [step_plain layout σ n hn]
    exact h.extend n

theorem Inv.foldl {layout : Layout} : ∀ (l pre : List Node) (σ : St), Inv layout pre σ →
    Inv layout (pre ++ l) (l.foldl (MultipleStatements.step layout) σ)
  | [], pre, _, h => (List.append_nil pre).symm ▸ h
  | n :: l, pre, _, h => List.append_cons pre n l ▸ Inv.foldl l (pre ++ [n]) _ (h.step n)

/-- soundness: a reported range is a statement (or last statement) of the program, and a statement visited before it
    ends on the same line -/
theorem multiple_statements_sound {layout : Layout} {P : Block} {g : Diag} (h : g ∈ run layout P) :
    ∃ p n q, nBlock P = p ++ n :: q ∧ stmtish n ∧ g.primary = nodeSpan n ∧
      ∃ m ∈ p, stmtish m ∧ endLine layout (nodeSpan m).last = endLine layout g.primary.last :=
  (Inv.foldl (nBlock P) [] {} ⟨List.forall_mem_nil _, List.forall_mem_nil _⟩).2 g h

theorem diags_mono (layout : Layout) (l : List Node) (σ : St) (d : Diag) (h : d ∈ σ.diags) :
    d ∈ (l.foldl (MultipleStatements.step layout) σ).diags := by
  refine List.foldlRecOn (motive := fun σ : St => d ∈ σ.diags) l _ h fun σ h n _ => ?_
  by_cases hn : stmtish n
  · obtain ⟨il, hs⟩ := step_stmtish layout σ n hn
    rw [hs]
    rcases lintStmt_cases layout { σ with ifLines := il } (nodeSpan n) with ⟨_, e⟩ | ⟨_, ⟨_, e⟩ | ⟨_, e⟩⟩ <;> rw [e]
    · exact List.mem_append_left _ h
    · exact h
    · exact h
  · rw [step_plain layout σ n hn]; exact h

theorem foldl_plain (layout : Layout) (l : List Node) (σ : St) (h : ∀ n ∈ l, ¬ stmtish n) :
    l.foldl (MultipleStatements.step layout) σ = σ :=
  List.foldlRecOn (motive := (· = σ)) l _ rfl fun _ hb n hn => hb.symm ▸ step_plain layout σ n (h n hn)

def notIf : Stmt → Prop
  | .if_ _ _ _ _ _ => False
  | _ => True

theorem step_notIf (layout : Layout) (σ : St) (s : Stmt) (h : notIf s) :
    MultipleStatements.step layout σ (.stmt s) = lintStmt layout σ (stmtSpan s) := by
  cases s
  case if_ => exact h.elim
  all_goals rfl

/-- canonical `foo() bar() baz()`: three consecutive statements of one statement list, anywhere in the program, the
    first two without nested statements, ending on the same line — the **third** is always reported.  (The second is reported
    too unless a one-line `if … then` of that very line is still pending, see `multiple_statements_miss_witness`.) -/
theorem multiple_statements_canon_third {layout : Layout} {P : Block} {s1 s2 s3 : Stmt} {rest : StmtList}
    (hw : Within (.block P) (.stmts (.cons s1 (.cons s2 (.cons s3 rest)))))
    (hq1 : ∀ n ∈ nStmt s1, ¬ stmtish n) (hq2 : ∀ n ∈ nStmt s2, ¬ stmtish n)
    (hn2 : notIf s2) (hn3 : notIf s3)
    (hl12 : endLine layout (stmtSpan s1).last = endLine layout (stmtSpan s2).last)
    (hl23 : endLine layout (stmtSpan s2).last = endLine layout (stmtSpan s3).last) :
    ∃ g ∈ run layout P, g.primary = stmtSpan s3 := by
  obtain ⟨pre, post, (hsplit : pre ++ nStmts _ ++ post = nBlock P)⟩ := within_nodes_infix hw
  refine ⟨{ code := "multiple_statements", primary := stmtSpan s3, msg := MultipleStatements.msg }, ?_, rfl⟩
  unfold run
  rw [← hsplit, List.foldl_append, List.foldl_append]
  apply diags_mono
  generalize pre.foldl (MultipleStatements.step layout) {} = σ
  rw [nStmts_cons, nStmts_cons, nStmts_cons, List.foldl_cons, List.foldl_append, foldl_plain layout _ _ hq1,
    List.foldl_cons, List.foldl_append, foldl_plain layout _ _ hq2, List.foldl_cons]
  apply diags_mono
  -- `prepare_if` at `s1` is harmless (`lintStmt_third` starts from any state); at `s2` it could make the line a pending
  -- one-line `if` again, which `s2` would use up instead of recording the line: hence `notIf s2` (`notIf s3` saves a case)
  obtain ⟨il, hs1⟩ := step_stmtish layout σ (.stmt s1) trivial
  rw [hs1, step_notIf layout _ s2 hn2, step_notIf layout _ s3 hn3]
  exact lintStmt_third layout _ hl12 hl23

/-- a call statement `name()` at tokens `i … i+2` -/
def callStmt (i : Nat) (name : String) : Stmt :=
  .call (.mk ⟨i, i + 2⟩ (.name ⟨i, name⟩) (.cons (.args ⟨i + 1, i + 2⟩ (.parens ⟨i + 1, i + 2⟩ .nil)) .nil))

/-- `if (function() foo() bar() end)() then⏎ return⏎ end` — 18 tokens, `then` is token 15 and ends line 1 -/
def missIfProgram : Block :=
  let inner : Block := .mk (some ⟨5, 10⟩) (.cons (callStmt 5 "foo") (.cons (callStmt 8 "bar") .nil)) .none
  let cond : Expr := .call (.mk ⟨1, 14⟩ (.expr (.paren ⟨1, 12⟩ (.func ⟨2, 11⟩ ⟨2, "function"⟩ (.mk ⟨3, 11⟩ [] inner))))
    (.cons (.args ⟨13, 14⟩ (.parens ⟨13, 14⟩ .nil)) .nil))
  .mk (some ⟨0, 17⟩) (.cons (.if_ ⟨0, 17⟩ cond (.mk (some ⟨16, 16⟩) .nil (.ret ⟨16, 16⟩ .nil)) .nil .none) .nil) .none

def missIfLayout : Layout :=
  (List.replicate 16 (⟨0, 0, 1, 1⟩ : TokLayout) ++ [(⟨0, 0, 2, 2⟩ : TokLayout), (⟨0, 0, 3, 3⟩ : TokLayout)]).toArray

/-- the departure: `foo() bar()` on one line inside a function in the condition of a return-only `if` whose `then`
    is on that line — `foo()` uses up the pending one-line-if allowance, `bar()` is then the "first" statement -/
theorem multiple_statements_miss_witness : run missIfLayout missIfProgram = [] := by decide +kernel

/-- non-vacuity of `multiple_statements_canon_third`: `foo() bar() baz()` on line 1 -/
example : (∀ n ∈ nStmt (callStmt 0 "foo"), ¬ stmtish n) ∧ notIf (callStmt 3 "bar") ∧
    endLine (List.replicate 9 (⟨0, 0, 1, 1⟩ : TokLayout)).toArray (stmtSpan (callStmt 0 "foo")).last =
    endLine (List.replicate 9 (⟨0, 0, 1, 1⟩ : TokLayout)).toArray (stmtSpan (callStmt 6 "baz")).last := by
  refine ⟨?_, trivial, by decide⟩
  intro n hn
  obtain rfl := List.mem_singleton.mp hn
  exact fun h => h

end MultipleStatements

end Selene.Props.C04B
