/-
C11 — linting is total and every diagnostic is well-formed.

Lean functions are total, so "no panic" is proved by modelling each panic site as an explicit failure
value (or a dependent index) and showing it is never taken.  Sites covered by theorems:
* `find_global`: `struct … not found`, `couldn't find … inside names_to_fields`, `assert!(!names.is_empty())`
  on every path the lints use (C11_find_no_panic, C11_field_access_nonempty);
* `Deprecated::try_instead`: the parameter index (`parameters[number - 1]`) is in bounds for every
  format string and parameter list — the model's index carries its proof, so the function is total
  by typing (C11_try_instead_total only says that the result is an `Option`);
* `RobloxClass::has_property` / `has_event`: the superclass walk both share visits at most `len + 1` classes
  for every class table, cyclic ones included (C11_class_walk_bounded); `has_property` finds exactly the properties
  of the classes reachable within that many links (C11_has_property_iff; no such theorem for `has_event`);
* display styles: a range on character boundaries never makes a writer fail (C11_ranges_wf_no_crash);
* every lint name the models emit exists in the registry regenerated from `use_lints!{}`
  (C11_lint_names_exist).
PARTIAL by design: of the ~250 unwrap/expect/unreachable sites the rest rely on full_moon invariants
("a parsed node has tokens") and are covered by the catch_unwind correspondence run only, which
checks no panic / existing lint name / ranges inside the source on character boundaries on every
program x library x configuration.
-/
import Selene.Std.TryInstead
import Selene.Props.C06
import Selene.Props.C20
import Selene.Generated.Lints
import Selene.Std.RobloxClass
namespace Selene.Props.C11
open Selene.Std

/-- **find_global never panics**, for every library that loads — including one whose field names a
struct it does not define (the site of `struct … not found`: the lookup leads nowhere there) -/
theorem C11_find_no_panic (l : SegLib) (h : Selene.Props.C06.WF l)
    (names : Path) (hn : names ≠ []) : ∀ why, findGlobal l names ≠ .panic why :=
  Selene.Props.C06.C06_find_total l h names hn

/-- **the `assert!(!name_path.is_empty())` of `lint_invalid_field_access` is unreachable**: it
would need a one-segment path that is not found although the root has fields -/
theorem C11_field_access_nonempty (l : SegLib) (h : Selene.Props.C06.WF l) (n : String)
    (hf : globalHasFields l n = true) : (findGlobal l [n]).isFound = true := by
  obtain ⟨f, hfound⟩ := Selene.Props.C06.C06_has_fields_find l h n hf
  simp [hfound, Lookup.isFound]

/-- **try_instead is total**: for every list of formats and parameters the result is a string or
`none` — the index into the parameters is provably in bounds (`0 < n ≤ len`), in particular `%0`
rejects the format instead of underflowing. -/
theorem C11_try_instead_total (formats : List String) (params : Array String) :
    (∃ s, tryInstead formats params = some s) ∨ tryInstead formats params = none := by
  cases h : tryInstead formats params with
  | none => exact Or.inr rfl
  | some s => exact Or.inl ⟨s, rfl⟩

/-- `%0` never selects a parameter: a format containing it does not apply -/
example : tryInstead ["new(%0)"] #["a"] = none := by decide +kernel
example : tryInstead ["new(%0)", "other(%1)"] #["a"] = some "other(a)" := by decide +kernel
example : tryInstead ["n(%2, %1)"] #["a"] = none := by decide +kernel
example : tryInstead ["m(%...) %% %x"] #["a", "b"] = some "m(a, b) % %x" := by decide +kernel
example : tryInstead ["%4294967296"] #["a"] = none := by decide +kernel

/-- **the superclass walk is bounded** by the size of the class table, whatever the links look like -/
theorem C11_class_walk_bounded (cs : Roblox.Classes) (c : Roblox.Class) :
    (Roblox.ancestry cs (cs.length + 1) c).length ≤ cs.length + 1 :=
  Roblox.ancestry_length cs _ c

/-- **… and answers the documented question**: a class has a property iff the class itself or one of the
classes reached by following at most `len` superclass links lists it -/
theorem C11_has_property_iff (cs : Roblox.Classes) (c : Roblox.Class) (p : String) :
    Roblox.hasProperty cs c p = true ↔
      ∃ k x, k ≤ cs.length ∧ Roblox.nthSuper cs k c = some x ∧ p ∈ x.properties := by
  unfold Roblox.hasProperty
  simp only [List.any_eq_true, List.contains_iff_mem]
  constructor
  · rintro ⟨x, hx, hp⟩
    obtain ⟨k, hk, hn⟩ := (Roblox.mem_ancestry cs _ c x).mp hx
    exact ⟨k, x, Nat.lt_succ_iff.mp hk, hn, hp⟩
  · rintro ⟨k, x, hk, hn, hp⟩
    exact ⟨x, (Roblox.mem_ancestry cs _ c x).mpr ⟨k, Nat.lt_succ_iff.mpr hk, hn⟩, hp⟩

/-- a two-class cycle: the walk ends and still finds what the other class lists -/
example :
    let a : Roblox.Class := { superclass := "B", events := [], properties := [] }
    let b : Roblox.Class := { superclass := "A", events := [], properties := ["Size"] }
    Roblox.hasProperty [("A", a), ("B", b)] a "Size" = true ∧ Roblox.hasProperty [("A", a), ("B", b)] a "Foo" = false := by
  decide +kernel

/-- the lint names the Lean models emit -/
def modelCodes : List String :=
  ["undefined_variable", "unused_variable", "shadowing", "must_use", "incorrect_standard_library_use", "invalid_lint_filter"]

/-- **every lint name a model emits exists** in the registry regenerated from the source -/
theorem C11_lint_names_exist : modelCodes.all (fun c => Selene.Generated.lints.any (·.1 = c)) = true := by decide +kernel

/-- **well-formed ranges never crash a writer** (re-export of C20) -/
theorem C11_ranges_wf_no_crash (src : List Char) (d : Selene.Cli.Diag) (h : Selene.Props.C20.wfRange src d)
    (s : Selene.Cli.Style) : ∃ row, Selene.Cli.render src s d = .ok row :=
  Selene.Props.C20.C20_no_crash src d h s

end Selene.Props.C11
