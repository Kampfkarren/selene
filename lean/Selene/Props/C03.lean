/-
C03 — shadowing is reported exactly when a visible same-name variable exists.

Proved here, for every chunk: `C03_shadows`, `C03_report_iff` — the scope-stack machine of `Scope/Core.lean` records
for every declaration as `shadowed` exactly the local that Lua's scoping rules make visible under the same name there
(`Spec.resolve`'s `visibleSameName`; a global the file assigns is not a declaration), and the lint over its log
reports accordingly, for every ignore predicate.  The machine's declaration log is compared with the real
`ScopeManager.variables[*].shadowed` on every program of the correspondence run.  `C03_lint_sound` /
`C03_lint_complete`: what `shadowing.rs` does with the tables, for all tables of the full model.
The same-statement corner (`local x, x = 1, 2`: the second `x` re-uses the name of the first, which Lua
does not yet consider in scope) is reported by selene; the specification records it the same way and
flags it `sameStatement`, the three-way check accepts either answer there.
-/
import Selene.Scope.Lints
import Selene.Props.C01
namespace Selene.Props.C03
open Selene.Scope Selene.Lua

/-- **C03 (shadowed = the visible same-name local).** For every chunk and every name filter, the
(declaration, shadowed declaration) pairs the machine records are — as a multiset — the declarations
Lua's scoping rules give, each with the local declaration visible under its name just before. -/
theorem C03_shadows [Core.NameFilter] (b : Block) :
    (Core.analyse b).shadows.Perm (SpecProof.shadows (Spec.resolve b)) := by
  rw [← CoreProof.log_shadows, ← SpecProof.log_shadows]
  exact (C01.C01_log b).filterMap _

theorem shadow_iff_decl [Core.NameFilter] (b : Block) (t : Nat) (s : Option Nat) :
    (t, s) ∈ (Core.analyse b).shadows ↔
      ∃ d ∈ (Spec.resolve b).decls, d.kind ≠ .varargParam ∧ Core.NameFilter.keep d.name = true ∧ d.tok = t ∧
        d.visibleSameName.map (·.1) = s := by
  rw [(C03_shadows b).mem_iff]
  simp only [SpecProof.shadows, List.mem_map, List.mem_filter, Prod.mk.injEq, Bool.and_eq_true, bne_iff_ne, and_assoc]

/-- the `shadowing` lint over the machine's log: one report per kept declaration that shadows a local -/
def shadowingReports [Core.NameFilter] (σ : Core.St) : List (Nat × Nat) :=
  σ.shadows.filterMap fun p => p.2.map fun s => (p.1, s)

theorem mem_shadowingReports [Core.NameFilter] (σ : Core.St) (t s : Nat) :
    (t, s) ∈ shadowingReports σ ↔ (t, some s) ∈ σ.shadows := by
  refine List.mem_filterMap.trans ⟨?_, fun h => ⟨_, h, rfl⟩⟩
  rintro ⟨⟨t', _ | s'⟩, hm, h⟩
  · cases h
  · cases h; exact hm

/-- the name filter of `shadowing.rs`: not matched by the ignore pattern, not `...` -/
def lintFilter (ignore : String → Bool) : Core.NameFilter := { keep := fun n => !ignore n && n != "..." }

/-- **C03 (reported exactly when a visible same-name local exists).** For every chunk and every ignore
predicate: `(t, s)` is reported — declaration token `t`, secondary label `s` — iff Lua's scoping rules
say that `t` declares a name under which the local declared at `s` is visible at that point, and the
name is neither ignored nor `...`. -/
theorem C03_report_iff (ignore : String → Bool) (b : Block) (t s : Nat) :
    (t, s) ∈ @shadowingReports (lintFilter ignore) (Core.analyse b) ↔
      ∃ d ∈ (Spec.resolve b).decls, d.tok = t ∧ d.visibleSameName.map (·.1) = some s ∧
        ignore d.name = false ∧ d.name ≠ "..." ∧ d.kind ≠ .varargParam := by
  rw [@mem_shadowingReports (lintFilter ignore), @shadow_iff_decl (lintFilter ignore)]
  have hkeep : ∀ n, @Core.NameFilter.keep (lintFilter ignore) n = true ↔ ignore n = false ∧ n ≠ "..." := fun n =>
    Bool.and_eq_true_iff.trans (and_congr (.of_eq (Bool.not_eq_true' _)) bne_iff_ne)
  constructor
  · rintro ⟨d, hd, hk, h, h1, h2⟩
    exact ⟨d, hd, h1, h2, ((hkeep _).mp h).1, ((hkeep _).mp h).2, hk⟩
  · rintro ⟨d, hd, h1, h2, h3, h4, hk⟩
    exact ⟨d, hd, hk, (hkeep _).mpr ⟨h3, h4⟩, h1, h2⟩

/-- non-vacuity: `local x; do local x end` — the inner `x` (token 4) is reported with the outer one (1) -/
example :
    let t (i : Nat) (s : String) : Tok := ⟨i, s⟩
    let b : Block := .mk none
      (.cons (.localAssign ⟨0, 1⟩ [t 1 "x"] .nil)
        (.cons (.do_ ⟨2, 5⟩ (.mk none (.cons (.localAssign ⟨3, 4⟩ [t 4 "x"] .nil) .nil) .none)) .nil)) .none
    @shadowingReports (lintFilter fun _ => false) (Core.analyse b) = [(4, 1)] := by
  decide +kernel

theorem mem_shadowing (ignore : String → Bool) (σ : St) (g : Diag) :
    g ∈ shadowing ignore σ ↔
      ∃ v ∈ σ.vars.toList, ∃ s sv, v.shadowed = some s ∧ σ.vars[s]? = some sv ∧ sv.hoisted = false ∧
        ignore v.name = false ∧ v.name ≠ "..." ∧
        g = { code := "shadowing", primary := ⟨v.ident, v.ident⟩, secondary := [⟨sv.ident, sv.ident⟩], detail := v.name } := by
  unfold shadowing
  simp only [List.mem_filterMap]
  constructor
  · rintro ⟨v, hv, hsome⟩
    refine ⟨v, hv, ?_⟩
    split at hsome
    · cases hsome
    next s hs =>
      split at hsome
      · cases hsome
      next sv hsv =>
        simp only [Option.ite_none_left_eq_some, Option.some.injEq, Bool.or_eq_true, decide_eq_true_eq, not_or,
          Bool.not_eq_true] at hsome
        obtain ⟨hh, ⟨hi, hd⟩, rfl⟩ := hsome
        exact ⟨s, sv, hs, hsv, hh, hi, hd, rfl⟩
  · rintro ⟨v, hv, s, sv, hs, hsv, hh, hi, hd, rfl⟩
    exact ⟨v, hv, by simp [hs, hsv, hh, hi, hd]⟩

/-- **C03 (lint soundness over the tables).** Every `shadowing` diagnostic names a variable whose
recorded `shadowed` entry is a *declared* variable (not a global the file assigns), points its
secondary label at that earlier declaration, and is neither ignored nor `...`. -/
theorem C03_lint_sound (ignore : String → Bool) (σ : St) (g : Diag) (h : g ∈ shadowing ignore σ) :
    ∃ v ∈ σ.vars.toList, ∃ s sv, v.shadowed = some s ∧ σ.vars[s]? = some sv ∧ sv.hoisted = false ∧
      ignore v.name = false ∧ v.name ≠ "..." ∧
      g.primary = ⟨v.ident, v.ident⟩ ∧ g.secondary = [⟨sv.ident, sv.ident⟩] := by
  obtain ⟨v, hv, s, sv, hs, hsv, hh, hi, hd, rfl⟩ := (mem_shadowing ignore σ g).mp h
  exact ⟨v, hv, s, sv, hs, hsv, hh, hi, hd, rfl, rfl⟩

/-- **C03 (lint completeness over the tables).** Every variable whose `shadowed` entry is a declared
variable is reported, unless ignored or `...`. -/
theorem C03_lint_complete (ignore : String → Bool) (σ : St) (v : Variable) (hv : v ∈ σ.vars.toList)
    (s : Nat) (sv : Variable) (hs : v.shadowed = some s) (hsv : σ.vars[s]? = some sv)
    (hh : sv.hoisted = false) (hi : ignore v.name = false) (hd : v.name ≠ "...") :
    ∃ g ∈ shadowing ignore σ, g.primary = ⟨v.ident, v.ident⟩ ∧ g.secondary = [⟨sv.ident, sv.ident⟩] :=
  ⟨_, (mem_shadowing ignore σ _).mpr ⟨v, hv, s, sv, hs, hsv, hh, hi, hd, rfl⟩, rfl, rfl⟩

end Selene.Props.C03
