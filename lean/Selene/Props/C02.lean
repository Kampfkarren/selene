/-
C02 — unused_variable never flags a variable that is read.
Proved here, for all chunks: `C02_used_iff`, `C02_value_used_iff`, `C02_neverUsed_iff` — a declaration has a read (a
read that uses the value) recorded by the scope-stack machine exactly when Lua's scoping rules bind such an occurrence
to it, so "no recorded read" is "never read"; and, for all scope tables, what the lint reports given the tables
(`C02_lint_sound`, `C02_read_protects`, `C02_plain_read`, over the full ScopeVisitor model).  The documented
`observes: write` analysis is the one place where the property's first sentence is false by design (recorded finding).
-/
import Selene.Scope.Lints
import Selene.Props.C01
import Selene.Props.C03
namespace Selene.Props.C02
open Selene.Scope Selene.Lua

/-- **C02 (read ⇔ used).** For every chunk and declaration token `d`: the scope-stack machine records
some read that resolves to `d` iff the Lua resolver binds some identifier occurrence in an expression
position to `d`.  Hence a variable with no recorded read is one the script never reads, and a variable
the script reads always has a recorded read. -/
theorem C02_used_iff [Core.NameFilter] (b : Block) (d : Nat) :
    (∃ t, (t, some d) ∈ (Core.analyse b).answers) ↔
      ∃ oc ∈ (Spec.resolve b).occs, SpecProof.counted oc = true ∧ Core.NameFilter.read oc.name = true ∧
        oc.binding.map (·.1) = some d := by
  constructor
  · rintro ⟨t, h⟩
    obtain ⟨oc, h1, h2, h2', _, h4⟩ := (C01.C01_resolution_mem b t (some d)).mp h
    exact ⟨oc, h1, h2, h2', h4⟩
  · rintro ⟨oc, h1, h2, h2', h3⟩
    exact ⟨oc.tok, (C01.C01_resolution_mem b oc.tok (some d)).mpr ⟨oc, h1, h2, h2', rfl, h3⟩⟩

/-- **C02 (value used ⇔ value use recorded).** For every chunk and declaration token `d`: the machine
records a read of `d` that *uses its value* — any expression position except the root of an indexed
assignment target (`a` in `a.b = 1`, in `function a.b()`) — iff Lua's scoping rules bind to `d` an
occurrence of kind `value` (operand, argument, callee, indexed or returned value, condition, loop bound,
captured by a closure). -/
theorem C02_value_used_iff [Core.NameFilter] (b : Block) (d : Nat) :
    (∃ t, (t, some d) ∈ (Core.analyse b).valueUses) ↔
      ∃ oc ∈ (Spec.resolve b).occs, SpecProof.counted oc = true ∧ Core.NameFilter.read oc.name = true ∧
        oc.kind = .value ∧ oc.binding.map (·.1) = some d := by
  have hm : ∀ t, (t, some d) ∈ (Core.analyse b).valueUses ↔
      ∃ oc ∈ (Spec.resolve b).occs, SpecProof.counted oc = true ∧ Core.NameFilter.read oc.name = true ∧
        oc.kind = .value ∧ oc.tok = t ∧ oc.binding.map (·.1) = some d := fun t => by
    rw [← CoreProof.log_valueUses, ((C01.C01_log b).filterMap _).mem_iff, SpecProof.log_valueUses]
    simp only [SpecProof.valueUses, List.mem_map, List.mem_filter, Prod.mk.injEq, Bool.and_eq_true, beq_iff_eq, and_assoc]
  constructor
  · rintro ⟨t, h⟩
    obtain ⟨oc, h1, h2, h3, h4, _, h6⟩ := (hm t).mp h
    exact ⟨oc, h1, h2, h3, h4, h6⟩
  · rintro ⟨oc, h1, h2, h3, h4, h5⟩
    exact ⟨oc.tok, (hm _).mpr ⟨oc, h1, h2, h3, h4, rfl, h5⟩⟩

/-- the declarations `unused_variable` is about, over the machine's log -/
def neverUsed [Core.NameFilter] (σ : Core.St) : List Nat :=
  (σ.shadows.map (·.1)).filter fun t => !(σ.valueUses.any fun u => u.2 == some t)

/-- **C02 (both directions, for the machine).** For every chunk: a declaration is in `neverUsed` — the
only declarations the lint may report, and all of which it reports unless a further condition of the lint
(ignore pattern, implicit `self`, the documented write-only analysis) says otherwise — iff it is a
local, parameter, loop variable, local function or implicit `self` of the file to which Lua's scoping
rules bind no occurrence that uses its value.  In particular a variable some expression uses is never in
it, and a variable never mentioned again after its declaration always is. -/
theorem C02_neverUsed_iff (b : Block) (t : Nat) :
    t ∈ @neverUsed Core.NameFilter.all (Core.analyse b) ↔
      (∃ dc ∈ (Spec.resolve b).decls, dc.kind ≠ .varargParam ∧ dc.tok = t) ∧
      ¬ ∃ oc ∈ (Spec.resolve b).occs, SpecProof.counted oc = true ∧ oc.kind = .value ∧ oc.binding.map (·.1) = some t := by
  letI := Core.NameFilter.all
  simp only [neverUsed, List.mem_filter, List.mem_map, Bool.not_eq_true', List.any_eq_false, beq_iff_eq, Prod.exists,
    exists_and_right, exists_eq_right]
  refine and_congr ⟨?_, ?_⟩ ⟨?_, ?_⟩
  · rintro ⟨s, h⟩
    obtain ⟨dc, h1, h2, _, h3, _⟩ := (C03.shadow_iff_decl b t s).mp h
    exact ⟨dc, h1, h2, h3⟩
  · rintro ⟨dc, h1, h2, h3⟩
    exact ⟨_, (C03.shadow_iff_decl b t _).mpr ⟨dc, h1, h2, rfl, h3, rfl⟩⟩
  · rintro hno ⟨oc, h1, h2, h3, h4⟩
    obtain ⟨u, hu⟩ := (C02_value_used_iff b t).mpr ⟨oc, h1, h2, rfl, h3, h4⟩
    exact hno _ hu rfl
  · rintro hno ⟨u, _⟩ hu rfl
    obtain ⟨oc, h1, h2, _, h4, h5⟩ := (C02_value_used_iff b t).mp ⟨u, hu⟩
    exact hno ⟨oc, h1, h2, h4, h5⟩

def analyzedOf (σ : St) (argObserves : List String → Nat → Option Bool) (v : Variable) : List Analyzed :=
  v.references.filterMap fun id => (σ.refs[id]?).map (analyzeRef σ argObserves v)

/-- **C02 (lint soundness over the tables).** An `unused_variable` diagnostic names a variable
none of whose recorded references is analysed as a read, whose name the ignore pattern does not
match, and which is not an ignorable implicit `self`. -/
theorem C02_lint_sound (hasFields : String → Bool) (argObserves : List String → Nat → Option Bool)
    (ignore : String → Bool) (aus : Bool) (σ : St) (g : Diag)
    (h : g ∈ unusedVariable hasFields argObserves ignore aus σ) :
    ∃ v ∈ σ.vars.toList, g.primary = ⟨v.ident, v.ident⟩ ∧ ignore v.name = false ∧
      (∀ a ∈ analyzedOf σ argObserves v, a ≠ .read) ∧ ¬ (v.isSelf = true ∧ aus = true) := by
  obtain ⟨v, hv, hsome⟩ := List.mem_filterMap.mp h
  simp only [Option.ite_none_left_eq_some, Option.some.injEq] at hsome
  obtain ⟨hi, _, hr, hs, rfl⟩ := hsome
  exact ⟨v, hv, rfl, Bool.eq_false_iff.mpr hi, fun a ha hread => hr (List.any_eq_true.mpr ⟨a, ha, beq_of_eq hread⟩),
    fun hs' => hs (Bool.and_eq_true_iff.mpr hs')⟩

/-- **C02 (a read reference protects).** If some reference of a variable is analysed as a read, the
variable is not reported. -/
theorem C02_read_protects (hasFields : String → Bool) (argObserves : List String → Nat → Option Bool)
    (ignore : String → Bool) (aus : Bool) (σ : St) (g : Diag)
    (h : g ∈ unusedVariable hasFields argObserves ignore aus σ) (v : Variable)
    (hp : g.primary = ⟨v.ident, v.ident⟩)
    (hu : ∀ w ∈ σ.vars.toList, w.ident = v.ident → w = v) :
    ∀ a ∈ analyzedOf σ argObserves v, a ≠ .read := by
  obtain ⟨w, hw, hpw, _, hall, _⟩ := C02_lint_sound hasFields argObserves ignore aus σ g h
  exact hu w hw (congrArg Span.first (hpw.symm.trans hp)) ▸ hall

/-- a reference of a non-static-table variable that reads it is always analysed as a read -/
theorem C02_plain_read (σ : St) (argObserves : List String → Nat → Option Bool) (v : Variable) (r : Ref)
    (hs : v.staticTable = none) (hw : r.write = none) :
    analyzeRef σ argObserves v r = .read := by
  simp [analyzeRef, hs, hw]

end Selene.Props.C02
