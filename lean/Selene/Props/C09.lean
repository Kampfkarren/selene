/-
C09 — invalid lint filters are reported and suppress nothing.
-/
import Selene.Filter.Lemmas
import Selene.Props.C08
namespace Selene.Props.C09
open Selene.Filter Selene.Props.C08

/-- **C09 (unknown lint).** Every claimed filter naming a lint that does not exist is reported,
at its comment. -/
theorem C09_unknown (entries : List RangeEntry) (firstCode : Option Nat) (ds : List Diag) (out : Output)
    (h : filterDiagnostics entries firstCode ds = some out) (r : Nat × Nat) (l : String)
    (hr : RangeEntry.rejected r l ∈ entries) : Failure.unknownLint r l ∈ out.failures := by
  have hmem : Failure.unknownLint r l ∈ rejectedOf entries := List.mem_filterMap.mpr ⟨_, hr, rfl⟩
  unfold filterDiagnostics at h
  simp only at h
  split at h
  · cases h; exact hmem
  · split at h
    · cases h
    · cases h; exact List.mem_append_left _ hmem

/-- **C09 (inert, unknown lint).** A filter rejected for naming a missing lint has no effect on any
diagnostic: removing the rejected entries changes nothing but the failure list. -/
theorem C09_rejected_inert (entries : List RangeEntry) (firstCode : Option Nat) (ds : List Diag) :
    (filterDiagnostics entries firstCode ds).map (·.diags) =
      (filterDiagnostics ((filtersOf entries).map .ok) firstCode ds).map (·.diags) := by
  have hf : filtersOf ((filtersOf entries).map .ok) = filtersOf entries := by
    simp [filtersOf, List.filterMap_map, Function.comp_def, RangeEntry.filter?]
  rw [filterDiagnostics_diags, filterDiagnostics_diags, hf]

/-- **C09 (inert, late global).** A global filter placed after code is reported and pushes
nothing: instruction list and global list are unchanged by it. -/
theorem C09_global_late_inert (firstCode : Option Nat) (st : BuildSt) (f : Filter)
    (hl : isLate firstCode f = true) :
    (buildStep firstCode st f).instrs = st.instrs ∧ (buildStep firstCode st f).globals = st.globals ∧
    (buildStep firstCode st f).failures = st.failures ++ [.globalLate f.commentRange] := by
  unfold buildStep; simp [hl]

/-- **C09 (conflict, inert).** A second filter for the same piece of code and lint sits below the
first one on the stack, so it never decides anything the first one would not. -/
theorem C09_conflict_inert (stack : List Config) (first second : Config) (d : Diag)
    (h : first.lint = second.lint) :
    decide1 (first :: second :: stack) d = decide1 (first :: stack) d := by
  rw [decide1_cons, decide1_cons, decide1_cons]
  by_cases h1 : first.lint = d.code
  · rw [if_pos h1, if_pos h1]
  · rw [if_neg h1, if_neg h1, if_neg (h ▸ h1)]

/-! ### malformed comments are not filters at all -/
-- the characters of each literal by rewriting: decoding its bytes by evaluation is slow
example : parseComment " selene: allow(".toList = none := by
  rw [String.toList_ofList]
  decide +kernel
example : parseComment " selene: alow(unused_variable)".toList = none := by
  rw [String.toList_ofList]
  decide +kernel
example : parseComment " selene allow(unused_variable)".toList = none := by
  rw [String.toList_ofList]
  decide +kernel
example : parseComment " selene: allow()".toList = none := by
  rw [String.toList_ofList]
  decide +kernel
example : parseComment " selene: allow(unused_variable, shadowing)".toList =
    some [{ global := false, lint := "unused_variable", sev := .allow },
          { global := false, lint := "shadowing", sev := .allow }] := by
  rw [String.toList_ofList]
  decide +kernel
example : parseComment "# selene: deny(x)".toList = some [{ global := true, lint := "x", sev := .error }] := by
  rw [String.toList_ofList]
  decide +kernel

end Selene.Props.C09
