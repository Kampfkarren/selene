/-
C20 — every display style reports the same diagnostics, in parseable form.
-/
import Selene.Cli.Location
namespace Selene.Props.C20
open Selene.Cli

/-! ### specification of line / column, independent of the scan -/

/-- the characters that lie entirely before byte offset `b` -/
def prefixChars : List Char → Nat → List Char
  | [], _ => []
  | c :: rest, b => if utf8Width c ≤ b then c :: prefixChars rest (b - utf8Width c) else []

/-- `b` is a character boundary inside the source -/
def wfOffset (src : List Char) (b : Nat) : Prop := byteLen (prefixChars src b) = b

instance (src : List Char) (b : Nat) : Decidable (wfOffset src b) := by unfold wfOffset; infer_instance

def Spec.lineCol (src : List Char) (b : Nat) : Loc :=
  let p := prefixChars src b
  { line := p.count '\n', column := (p.reverse.takeWhile (· ≠ '\n')).length }

def stepLC (lc : Loc) (c : Char) : Loc :=
  if c = '\n' then ⟨lc.line + 1, 0⟩ else ⟨lc.line, lc.column + 1⟩

theorem utf8Width_pos (c : Char) : 0 < utf8Width c := by
  unfold utf8Width
  simp only [apply_ite (0 < ·), Nat.succ_pos, ite_self]

theorem byteLen_cons (c : Char) (p : List Char) : byteLen (c :: p) = utf8Width c + byteLen p := by
  simp [byteLen]

theorem stop_ok_iff (b offset line col : Nat) (e : LocError) (l : Loc) :
    (if offset = offset + b then Except.ok ⟨line, col⟩ else .error e) = .ok l ↔ 0 = b ∧ l = ⟨line, col⟩ := by
  by_cases hb : b = 0 <;> simp [hb, eq_comm]

theorem scan_ok_iff (src : List Char) (b offset line col : Nat) (l : Loc) :
    scan src (offset + b) offset line col = .ok l ↔
      byteLen (prefixChars src b) = b ∧ l = (prefixChars src b).foldl stepLC ⟨line, col⟩ := by
  induction src generalizing b offset line col with
  | nil => exact stop_ok_iff b offset line col _ l
  | cons c rest ih =>
    by_cases hw : utf8Width c ≤ b
    · obtain ⟨b', rfl⟩ := Nat.exists_eq_add_of_le hw
      have hne : ¬ offset = offset + utf8Width c + b' :=
        Nat.ne_of_lt (Nat.lt_add_right b' (Nat.lt_add_of_pos_right (utf8Width_pos c)))
      have hfit : ¬ offset + utf8Width c > offset + utf8Width c + b' := Nat.not_lt.mpr (Nat.le_add_right ..)
      rw [← Nat.add_assoc]
      simp only [scan, hne, hfit, if_false, prefixChars, hw, if_true, Nat.add_sub_cancel_left, byteLen_cons,
        Nat.add_left_cancel_iff, List.foldl_cons, stepLC]
      split <;> rw [ih]
    · rw [scan, if_pos (Nat.add_lt_add_left (Nat.lt_of_not_le hw) offset), prefixChars, if_neg hw]
      exact stop_ok_iff b offset line col _ l

theorem foldl_stepLC (p : List Char) :
    p.foldl stepLC ⟨0, 0⟩ = ⟨p.count '\n', (p.reverse.takeWhile (· ≠ '\n')).length⟩ := by
  rw [List.foldl_eq_foldr_reverse, ← List.count_reverse]
  induction p.reverse with
  | nil => rfl
  | cons c q ih =>
    rw [List.foldr_cons, ih]
    by_cases h : c = '\n' <;> simp [stepLC, h]

theorem ofByte_ok_iff (src : List Char) (b : Nat) (l : Loc) :
    ofByte src b = .ok l ↔ wfOffset src b ∧ l = Spec.lineCol src b := by
  have := scan_ok_iff src b 0 0 0 l
  rwa [Nat.zero_add, foldl_stepLC] at this

/-- **C20 (location).** On every well-formed offset (a character boundary inside the source) the
scan returns the specified line and column and never fails. -/
theorem C20_location (src : List Char) (b : Nat) (h : wfOffset src b) :
    ofByte src b = .ok (Spec.lineCol src b) :=
  (ofByte_ok_iff src b _).mpr ⟨h, rfl⟩

/-- an offset that is not well-formed makes the location lookup fail (this is the panic site of
the json / luacheck writers: `files.location(..).unwrap()` / `.expect(..)`) -/
theorem C20_location_fails (src : List Char) (b : Nat) (l : Loc) (h : ofByte src b = .ok l) : wfOffset src b :=
  ((ofByte_ok_iff src b l).mp h).1

/-- every range a diagnostic may carry: start and end are character boundaries, start ≤ end -/
def wfRange (src : List Char) (d : Diag) : Prop := wfOffset src d.start ∧ wfOffset src d.stop ∧ d.start ≤ d.stop

theorem render_quiet (src : List Char) (d : Diag) (h : wfOffset src d.start) : ∃ row, render src .quiet d = .ok row := by
  unfold render
  rw [C20_location src d.start h]
  exact ⟨_, rfl⟩

theorem render_eq_quiet (src : List Char) (d : Diag) (h : wfRange src d) (s : Style) :
    render src s d = render src .quiet d := by
  unfold render
  rw [C20_location src d.start h.1, C20_location src d.stop h.2.1]
  cases s <;> rfl

/-- **C20 (same).** On a well-formed range all five styles show the same row. -/
theorem C20_same (src : List Char) (d : Diag) (h : wfRange src d) (s₁ s₂ : Style) :
    render src s₁ d = render src s₂ d := by
  rw [render_eq_quiet src d h s₁, render_eq_quiet src d h s₂]

/-- **C20 (no crash).** On a well-formed range no style fails. -/
theorem C20_no_crash (src : List Char) (d : Diag) (h : wfRange src d) (s : Style) :
    ∃ row, render src s d = .ok row := by
  rw [render_eq_quiet src d h s]
  exact render_quiet src d h.1

/-- conversely, a range that ends inside a multi-byte character crashes exactly the styles that
look up the end position, while rich/quiet still print it -/
theorem C20_crash_split (src : List Char) (d : Diag) (h1 : wfOffset src d.start) (h2 : ¬ wfOffset src d.stop) :
    (∃ row, render src .quiet d = .ok row) ∧ (∀ row, render src .json d ≠ .ok row) := by
  refine ⟨render_quiet src d h1, ?_⟩
  intro row hr
  simp only [render, C20_location src d.start h1] at hr
  cases hstop : ofByte src d.stop with
  | error e => rw [hstop] at hr; cases hr
  | ok l => exact h2 (C20_location_fails src d.stop l hstop)

deriving instance DecidableEq for Except

private def demoSrc : List Char := "a = 1\nprint(\"é\")\n".toList

-- the literal's characters by rewriting: decoding its bytes by evaluation is slow
example : wfOffset demoSrc 13 ∧ ¬ wfOffset demoSrc 14 ∧ wfOffset demoSrc 15 := by
  unfold demoSrc
  rw [String.toList_ofList]
  decide +kernel
example : ofByte demoSrc 13 = .ok ⟨1, 7⟩ := by
  unfold demoSrc
  rw [String.toList_ofList]
  decide +kernel
example : ofByte demoSrc 14 = .error .invalidCharBoundary := by
  unfold demoSrc
  rw [String.toList_ofList]
  decide +kernel
example : ofByte demoSrc 100 = .error .indexTooLarge := by
  unfold demoSrc
  rw [String.toList_ofList]
  decide +kernel

end Selene.Props.C20
