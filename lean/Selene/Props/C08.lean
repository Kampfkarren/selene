/-
C08 — inline lint filters change exactly the diagnostics they cover.

`C08_machine` — the full statement — is proved: for every family of accepted filters whose inline
members are the pre-order of a well-formed forest of code pieces (ranges nested or strictly apart, a
nested piece starting after the enclosing one; any depth, any breadth, any number of filters per
piece, any global filters interleaved), the push/pop machine never pops an empty stack and its output
is `Spec.verdict` mapped over the diagnostics in order of position: innermost covering filter, else
the first accepted global filter, else unchanged.  `C08_visitor_forest` / `C08_visitor` derive that
hypothesis from the shape of the syntax tree (Filter/Visitor.lean, Filter/VisitorProof.lean): for every
tree whose spans nest and whose comments belong to one token each, `get_filter_ranges` yields the pre-order
of a well-formed forest, so visitor + machine = specification.  That the node sequence full_moon's visitor
reports is the pre-order of such a tree is checked on every program of the run (`synOf`,
`C08_visitor_checked`), and so is the hypothesis of `C08_machine` on the filter family itself (`forestOf`,
`C08_machine_checked`).  Also proved, for all inputs laminar or not: diagnostics of lints no filter
names are untouched; a file without accepted filters is returned unchanged; the decision for a covered
diagnostic ignores its incoming severity.
-/
import Selene.Filter.Lemmas
import Selene.Filter.MachineProof
import Selene.Filter.ForestOf
import Selene.Filter.SynOf
namespace Selene.Props.C08
open Selene.Filter

/-- **C08 (machine = specification).**  `hne`: without an accepted filter the diagnostics come back unsorted
(`C08_no_filters`). -/
theorem C08_machine (entries : List RangeEntry) (fc : Option Nat) (ds : List Diag) (F : Forest) (hi : Nat)
    (hF : (filtersOf entries).filter (fun f => !f.cfg.global) = F.filters) (hwf : F.WF 0 hi)
    (hne : (filtersOf entries).isEmpty = false) :
    (filterDiagnostics entries fc ds).map (·.diags) =
      some ((sortDiags ds).filterMap (Spec.verdict (filtersOf entries) fc)) := by
  rw [filterDiagnostics_diags, hne]
  exact runDiags_build fc _ F hi hF hwf ds

/-- the same with the hypothesis in its executable form (what the driver evaluates on every program) -/
theorem C08_machine_checked (entries : List RangeEntry) (fc : Option Nat) (ds : List Diag) (F : Forest)
    (h : forestOf ((filtersOf entries).filter fun f => !f.cfg.global) = some F)
    (hne : (filtersOf entries).isEmpty = false) :
    (filterDiagnostics entries fc ds).map (·.diags) =
      some ((sortDiags ds).filterMap (Spec.verdict (filtersOf entries) fc)) := by
  obtain ⟨hi, hwf, hF⟩ := forestOf_sound _ F h
  exact C08_machine entries fc ds F hi hF.symm hwf hne

/-- **C08 (the visitor yields forests).** For every syntax tree whose spans nest (children inside their
parent, in source order, a commented token strictly after what ends before it) and whose comments belong to
one token each, the accepted inline filters `get_filter_ranges` records are the pre-order of a well-formed
forest: the hypothesis of `C08_machine` follows from the shape of the tree. -/
theorem C08_visitor_forest (trivia : Nat → List Comment) (lintExists : String → Bool) (hok : TriviaOK trivia)
    (L : SynList) (hi : Nat) (h : L.wf trivia 0 false hi = true) :
    ∃ F : Forest, F.WF 0 hi ∧
      (filtersOf (claim lintExists (L.preorder trivia) [])).filter (fun f => !f.cfg.global) = F.filters := by
  refine ⟨L.forest trivia lintExists [], ?_, ?_⟩
  · exact SynList.forest_WF trivia lintExists L 0 false hi 0 [] h (Or.inl (Or.inl (Nat.zero_le 0)))
  · exact (SynList.claim_forest trivia lintExists hok L 0 false hi [] h).1

/-- **C08 (from the syntax tree to the verdicts).** `get_filter_ranges` followed by `filter_diagnostics`
over any such tree: no panic, and every diagnostic gets the verdict of the innermost covering filter, else
the first accepted global one, else stays as it was. -/
theorem C08_visitor (trivia : Nat → List Comment) (lintExists : String → Bool) (hok : TriviaOK trivia)
    (L : SynList) (hi : Nat) (h : L.wf trivia 0 false hi = true) (fc : Option Nat) (ds : List Diag)
    (hne : (filtersOf (claim lintExists (L.preorder trivia) [])).isEmpty = false) :
    (filterDiagnostics (claim lintExists (L.preorder trivia) []) fc ds).map (·.diags) =
      some ((sortDiags ds).filterMap (Spec.verdict (filtersOf (claim lintExists (L.preorder trivia) [])) fc)) := by
  obtain ⟨F, hwf, hF⟩ := C08_visitor_forest trivia lintExists hok L hi h
  exact C08_machine _ fc ds F hi hF hwf hne

/-- the same for a node sequence as the real `NodeVisitor` reports it, with the hypothesis in the executable
form the driver evaluates on every program (`synOf`: the nodes that carry comments are the pre-order of a
well-formed tree) -/
theorem C08_visitor_checked (lintExists : String → Bool) (nodes : List NodeInfo) (L : SynList) (hi : Nat)
    (h : synOf nodes = some (L, hi)) (fc : Option Nat) (ds : List Diag)
    (hne : (filtersOf (claim lintExists nodes [])).isEmpty = false) :
    (filterDiagnostics (claim lintExists nodes []) fc ds).map (·.diags) =
      some ((sortDiags ds).filterMap (Spec.verdict (filtersOf (claim lintExists nodes [])) fc)) := by
  obtain ⟨hwf, hok, hpre⟩ := synOf_sound nodes L hi h
  have := C08_visitor (triviaOf (withComments nodes)) lintExists hok L hi hwf fc ds
  rw [hpre, claim_withComments] at this
  exact this hne

/-! the premises of `C08_visitor` are satisfiable: `--[[ selene: allow(empty_if) ]] if … --[[ selene: deny(empty_if) ]] if … end end`
    as the visitor sees it (a Block, a statement, a nested Block and statement, the end-of-file token) -/
private def exTrivia (a : Nat) : List Comment :=
  if a = 30 then [{ start := 0, stop := 29, lines := [" selene: allow(empty_if)".toList] }]
  else if a = 70 then [{ start := 40, stop := 69, lines := [" selene: deny(empty_if)".toList] }] else []
private def exTree : SynList :=
  .cons (.node true 30 100 (.cons (.node false 30 100 (.cons (.node true 70 90 (.cons (.node false 70 90 .nil) .nil)) .nil)) .nil))
    (.cons (.node false 100 100 .nil) .nil)
example : exTree.wf exTrivia 0 false 100 = true := by decide +kernel
example : (filtersOf (claim (fun _ => true) (exTree.preorder exTrivia) [])).isEmpty = false := by
  -- the characters of the two literals by rewriting: decoding their bytes by evaluation is slow
  unfold exTrivia
  rw [String.toList_ofList, String.toList_ofList]
  decide +kernel
example : TriviaOK exTrivia := by
  have tok : ∀ a c, c ∈ exTrivia a → a = c.start + 30 := by
    intro a c hc
    unfold exTrivia at hc
    split at hc
    · cases List.mem_singleton.mp hc; assumption
    · split at hc
      · cases List.mem_singleton.mp hc; assumption
      · cases hc
  constructor
  · intro a a' c c' hne hc hc' heq
    exact hne (by rw [tok a c hc, tok a' c' hc', show c.start = c'.start from congrArg Prod.fst heq])
  · intro a
    unfold exTrivia
    split
    · exact List.pairwise_singleton _ _
    · split
      · exact List.pairwise_singleton _ _
      · exact List.nodup_nil

/-- **C08 (others untouched).** A diagnostic of a lint that no filter comment of the file names —
inline or global, accepted, late or conflicting — is reported exactly as without the comments,
for every family of filter ranges whatsoever. -/
theorem C08_others_untouched (entries : List RangeEntry) (firstCode : Option Nat) (ds : List Diag)
    (out : Output) (h : filterDiagnostics entries firstCode ds = some out)
    (d : Diag) (hd : d ∈ ds) (hl : ∀ f ∈ filtersOf entries, f.cfg.lint ≠ d.code) : d ∈ out.diags := by
  have hr := filterDiagnostics_diags entries firstCode ds
  rw [h] at hr
  split at hr
  · cases hr; exact hd
  · apply runDiags_untouched _ _ _ _ hr.symm d ((sortDiags_perm ds).mem_iff.mpr hd) (List.forall_mem_nil _)
    intro c b hc
    obtain ⟨f, hf, rfl⟩ := build_configs firstCode _ c b (List.mem_reverse.mp hc)
    exact hl f hf

/-- **C08 (no filters).** Without accepted filters the diagnostics are returned as they came. -/
theorem C08_no_filters (entries : List RangeEntry) (firstCode : Option Nat) (ds : List Diag)
    (h : filtersOf entries = []) :
    (filterDiagnostics entries firstCode ds).map (·.diags) = some ds := by
  rw [filterDiagnostics_diags, h]; rfl

/-- the decision for a diagnostic depends on the stack only through the first configuration of
its lint ("most recent wins") -/
theorem C08_most_recent_wins (stack : List Config) (c : Config) (d : Diag) (hc : c.lint = d.code) :
    decide1 (c :: stack) d = Spec.applySev c.sev d := by
  rw [decide1_cons, if_pos hc]

/-- entries below the first matching configuration are irrelevant: an outer filter for the same
lint never overrides an inner one -/
theorem C08_inner_shadows_outer (inner outer : List Config) (c : Config) (d : Diag)
    (hc : c.lint = d.code) (hin : ∀ x ∈ inner, x.lint ≠ d.code) :
    decide1 (inner ++ c :: outer) d = Spec.applySev c.sev d := by
  induction inner with
  | nil => exact C08_most_recent_wins outer c d hc
  | cons x inner ih =>
    rw [List.cons_append, decide1_cons, if_neg (hin x List.mem_cons_self),
      ih fun y hy => hin y (List.mem_cons_of_mem _ hy)]

/-! ### why laminarity is needed: overlapping ranges break the machine's anonymous `Pop`, nested ones do not -/
private def cfg (l : String) (s : Sev) : Config := { global := false, lint := l, sev := s }
private def flt (l : String) (s : Sev) (a b : Nat) : Filter :=
  { cfg := cfg l s, commentRange := (0, 0), range := (a, b) }

/-- overlapping (non-laminar) ranges: the machine's answer differs from `innermost covering wins` -/
example :
    let fs := [flt "x" .allow 0 10, flt "y" .allow 5 20]
    let d : Diag := { code := "y", start := 12, sev := .warning, tag := "" }
    (filterDiagnostics (fs.map .ok) none [d]).map (·.diags) ≠ some ((Spec.verdict fs none d).toList) := by
  decide +kernel

/-- nested ranges: machine = specification -/
example :
    let fs := [flt "x" .allow 0 20, flt "x" .error 5 10]
    let ds : List Diag := [{ code := "x", start := 7, sev := .warning, tag := "a" },
                           { code := "x", start := 12, sev := .warning, tag := "b" },
                           { code := "z", start := 6, sev := .warning, tag := "c" }]
    (filterDiagnostics (fs.map .ok) none ds).map (·.diags) =
      some ((sortDiags ds).filterMap (Spec.verdict fs none)) := by
  decide +kernel

/-- hypotheses of `C08_machine_checked` are met by a family with two filters on one piece, a nested piece,
    a sibling and a global filter -/
example :
    let g : Filter := { cfg := { global := true, lint := "x", sev := .warning }, commentRange := (0, 0), range := (0, 30) }
    let fs := [g, flt "x" .allow 0 20, flt "y" .error 0 20, flt "x" .error 5 10, flt "y" .allow 22 30]
    (forestOf ((filtersOf (fs.map .ok)).filter fun f => !f.cfg.global)).isSome = true ∧
      (filtersOf (fs.map RangeEntry.ok)).isEmpty = false := by
  decide +kernel

end Selene.Props.C08
