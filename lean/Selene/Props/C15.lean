/-
C15 — a derived standard library overrides its base; removals remove.
The specification is written from the property text; the lemmas about association lists are in
`Selene/Std/ExtendLemmas.lean`.
-/
import Selene.Std.ExtendLemmas
namespace Selene.Props.C15
open Selene.Std

/-- What a `BTreeMap` guarantees and the model's association lists must be told. -/
def WF (l : Lib) : Prop := KeysNodup l.globals

/-- One library's own verdict on a key: `none` = says nothing, `some none` = removed,
    `some (some f)` = defines it. -/
def verdict (l : Lib) (k : String) : Option (Option Field) :=
  match l.globals.get k with
  | none => none
  | some f => if f.isRemoved then some none else some (some f)

/-- derived-most first: the first library that mentions the key decides -/
def Spec.chainLookup : List Lib → String → Option Field
  | [], _ => none
  | l :: rest, k =>
    match verdict l k with
    | some r => r
    | none => Spec.chainLookup rest k

def Spec.versions : List Lib → List LuaVersion
  | [] => []
  | l :: rest => if l.luaVersions.isEmpty then Spec.versions rest else l.luaVersions

/-- right-nested application along a base chain: `d` based on `b₁` based on `b₂` … -/
def nest : Lib → List Lib → Lib
  | d, [] => d
  | d, b :: bs => extend d (nest b bs)

theorem extend_wf (d b : Lib) : WF (extend d b) := by
  unfold WF extend
  exact (KeysNodup.nil.extendKV _).extendKV _

/-- **C15 (pair).** Every key of the merged library is decided by the derived library if it
mentions it (a `removed` mark makes it absent), otherwise by the base (whose own `removed`
marks are likewise absent). -/
theorem C15_lookup (d b : Lib) (hd : WF d) (hb : WF b) (k : String) :
    (extend d b).globals.get k = Spec.chainLookup [d, b] k := by
  show getKV (extendKV (extendKV [] (b.globals.filter _)) (d.globals.filter _)) k = _
  rw [getKV_extendKV _ _ (KeysNodup.filter hd _), getKV_filter _ hd,
      getKV_extendKV _ _ (KeysNodup.filter hb _), getKV_filter _ hb]
  simp only [Spec.chainLookup, verdict, removedIn, FieldMap.get_eq_getKV]
  cases getKV d.globals k with
  | none =>
    cases getKV b.globals k with
    | none => rfl
    | some fb =>
      dsimp only [Option.filter_some]
      cases fb.isRemoved <;> rfl
  | some fd =>
    dsimp only [Option.filter_some]
    cases fd.isRemoved with
    | false => rfl
    | true =>
      cases getKV b.globals k with
      | none => rfl
      | some fb =>
        dsimp only [Option.filter_some]
        cases fb.isRemoved <;> rfl

/-- **C15 (versions).** The derived library's `lua_versions`, when given, replace the base's. -/
theorem C15_versions (d b : Lib) :
    (extend d b).luaVersions = if d.luaVersions ≠ [] then d.luaVersions else b.luaVersions := by
  unfold extend
  cases h : d.luaVersions <;> simp

theorem chainLookup_cons (l : Lib) (rest : List Lib) (k : String) :
    Spec.chainLookup (l :: rest) k =
      match verdict l k with
      | some r => r
      | none => Spec.chainLookup rest k := rfl

theorem nest_wf (d : Lib) (bs : List Lib) (hd : WF d) : WF (nest d bs) := by
  cases bs with
  | nil => exact hd
  | cons b bs => exact extend_wf _ _

theorem verdict_some {l : Lib} {k : String} {f : Field} (h : verdict l k = some (some f)) :
    f.isRemoved = false := by
  unfold verdict at h
  split at h
  · cases h
  · split at h
    next => cases h
    next hr => cases h; exact Bool.eq_false_iff.mpr hr

theorem chainLookup_not_removed (ls : List Lib) (k : String) (f : Field)
    (h : Spec.chainLookup ls k = some f) : f.isRemoved = false := by
  fun_induction Spec.chainLookup ls k with
  | case1 => cases h
  | case2 l rest k r hv => exact verdict_some (h ▸ hv)
  | case3 _ _ _ _ ih => exact ih h

/-- the merged library contains no `removed` markers at all -/
theorem C15_no_removed (d b : Lib) (hd : WF d) (hb : WF b) (k : String) (f : Field)
    (h : (extend d b).globals.get k = some f) : f.isRemoved = false :=
  chainLookup_not_removed _ k f (C15_lookup d b hd hb k ▸ h)

theorem chainLookup_single {l : Lib} {k : String} (h : ∀ f, l.globals.get k = some f → f.isRemoved = false) :
    Spec.chainLookup [l] k = l.globals.get k := by
  rw [chainLookup_cons]
  unfold verdict
  cases hg : l.globals.get k with
  | none => rfl
  | some f => dsimp only; rw [h f hg]; rfl

theorem chainLookup_nest (d : Lib) (bs : List Lib) (hd : WF d) (hbs : ∀ l ∈ bs, WF l) (k : String) :
    Spec.chainLookup [nest d bs] k = Spec.chainLookup (d :: bs) k := by
  induction bs generalizing d with
  | nil => rfl
  | cons b bs ih =>
    have hb : WF b := hbs b List.mem_cons_self
    have hn : WF (nest b bs) := nest_wf b bs hb
    -- `extend d _` carries no removal mark, so it answers for itself
    rw [nest, chainLookup_single (C15_no_removed d _ hd hn k), C15_lookup d _ hd hn, chainLookup_cons d,
      chainLookup_cons d, ih b hb fun l hl => hbs l (List.mem_cons_of_mem _ hl)]

/-- **C15 (transitive, base chains).** Along a base chain of any length ≥ 2 the first library
(derived-most first) that mentions a key decides it; in particular a removal in the derived
library hides the key in *every* ancestor.  (Not for a chain of one: `nest d [] = d` keeps its `removed` marks.) -/
theorem C15_base_chain (d b : Lib) (bs : List Lib) (hd : WF d) (hb : WF b)
    (hbs : ∀ l ∈ bs, WF l) (k : String) :
    (nest d (b :: bs)).globals.get k = Spec.chainLookup (d :: b :: bs) k :=
  (chainLookup_single (C15_no_removed d _ hd (nest_wf b bs hb) k)).symm.trans
    (chainLookup_nest d (b :: bs) hd (List.forall_mem_cons.mpr ⟨hb, hbs⟩) k)

/-- versions along a base chain: the first library that declares any wins -/
theorem C15_chain_versions (d : Lib) (bs : List Lib) :
    (nest d bs).luaVersions = Spec.versions (d :: bs) := by
  induction bs generalizing d with
  | nil =>
    show d.luaVersions = if d.luaVersions.isEmpty then [] else d.luaVersions
    cases d.luaVersions <;> rfl
  | cons b bs ih => exact congrArg (if d.luaVersions.isEmpty then · else d.luaVersions) (ih b)

def chainOf (env : String → Option Lib) : Nat → String → Option (Lib × List Lib)
  | 0, _ => none
  | fuel + 1, name =>
    match env name with
    | none => none
    | some l =>
      match l.base with
      | none => some (l, [])
      | some b =>
        match chainOf env fuel b with
        | some (l', ls) => some (l, l' :: ls)
        | none => none

/-- The built-in / file base recursion computes exactly the right-nested chain. -/
theorem C15_effective_is_nest (env : String → Option Lib) (fuel : Nat) (name : String) :
    effective env fuel name = (chainOf env fuel name).map fun c => nest c.1 c.2 := by
  fun_induction chainOf env fuel name with
  | case1 => rfl
  | case2 fuel name h => simp only [effective, h, Option.map_none]
  | case3 fuel name l h hb => simp only [effective, h, hb, Option.map_some, nest]
  | case4 fuel name l h b hb l' ls hc ih =>
    simp only [effective, h, hb, ih, hc, Option.map_some, nest]
  | case5 fuel name l h b hb hc ih =>
    simp only [effective, h, hb, ih, hc, Option.map_none]

/-- **C15 (`+` chains).** `a+b+c` is the left fold: the accumulated library plays "derived". -/
theorem C15_plus_chain (a : Lib) (rest : List Lib) :
    plusChain (a :: rest) = some (rest.foldl extend a) := rfl

theorem C15_plus_step (acc c : Lib) (hacc : WF acc) (hc : WF c) (k : String) :
    (extend acc c).globals.get k = Spec.chainLookup [acc, c] k := C15_lookup acc c hacc hc k

private def fProp : Field := { kind := .property .readOnly }
private def fAny : Field := { kind := .any }
private def fRem : Field := { kind := .removed }

private def dLib : Lib :=
  { globals := [("a", fAny), ("b", fRem)], luaVersions := [.lua53] }
private def bLib : Lib :=
  { globals := [("a", fProp), ("b", fProp), ("c", fProp), ("d", fRem)], luaVersions := [.lua52] }

example : WF dLib ∧ WF bLib := by
  constructor <;> simp [WF, KeysNodup, dLib, bLib]

example : (extend dLib bLib).globals.get "a" = some fAny := by decide +kernel
example : (extend dLib bLib).globals.get "b" = none := by decide +kernel
example : (extend dLib bLib).globals.get "c" = some fProp := by decide +kernel
example : (extend dLib bLib).globals.get "d" = none := by decide +kernel
/-- regression witness for `fix: extend keeps derived lua_versions` in /repo: the derived library's
    `[lua53]`, not the base's `[lua52]`. -/
example : (extend dLib bLib).luaVersions = [.lua53] := by decide +kernel

end Selene.Props.C15
