/-
C10 — configured severities relabel diagnostics without changing what is found.
-/
import Selene.Lints.CyclomaticProof
import Selene.Filter.Lemmas
import Selene.Props.C19
import Selene.Generated.Lints
namespace Selene.Props.C10
open Selene.Filter

def genSev : Selene.Generated.Sev → Sev
  | .allow => .allow | .error => .error | .warning => .warning | .unknown => .warning

def defaultSeverity (lint : String) : Option Sev :=
  (Selene.Generated.lints.find? (·.1 = lint)).map fun r => genSev r.2

/-- `get_lint_severity`: the configured variation if present, otherwise the lint's built-in default -/
def severityOf (cfg : List (String × Sev)) (lint : String) : Option Sev :=
  match cfg.find? (·.1 = lint) with
  | some (_, s) => some s
  | none => defaultSeverity lint

/-- a lint pass yields findings that carry no severity; `test_on` attaches it afterwards -/
structure Finding where
  code : String
  start : Nat
  tag : String
deriving DecidableEq, Repr

def attach (cfg : List (String × Sev)) (f : Finding) : Option Diag :=
  (severityOf cfg f.code).map fun s => { code := f.code, start := f.start, sev := s, tag := f.tag }

def erase (d : Diag) : Finding := { code := d.code, start := d.start, tag := d.tag }

theorem erase_attach (cfg : List (String × Sev)) (fs : List Finding) :
    (fs.filterMap (attach cfg)).map erase = fs.filter fun f => (severityOf cfg f.code).isSome := by
  rw [List.map_filterMap, ← List.filterMap_eq_filter]
  congr 1; funext f
  cases h : severityOf cfg f.code <;> simp [attach, erase, Option.guard, h]

/-- **C10 (same findings).** Whatever severities are configured, the unfiltered diagnostics are the
same findings: erasing the severity gives back exactly what the lints found. -/
theorem C10_same_findings (cfg₁ cfg₂ : List (String × Sev)) (fs : List Finding) :
    ((fs.filterMap (attach cfg₁)).map erase) = ((fs.filterMap (attach cfg₂)).map erase) ∨
    ∃ f ∈ fs, defaultSeverity f.code = none := by
  by_cases h : ∃ f ∈ fs, defaultSeverity f.code = none
  · exact Or.inr h
  · have all : ∀ cfg, ∀ f ∈ fs, (severityOf cfg f.code).isSome = true := fun cfg f hf => by
      unfold severityOf
      split
      · rfl
      · exact Option.isSome_iff_ne_none.mpr fun hd => h ⟨f, hf, hd⟩
    rw [erase_attach, erase_attach, List.filter_eq_self.mpr (all cfg₁), List.filter_eq_self.mpr (all cfg₂)]
    exact Or.inl rfl

/-- **C10 (inline wins, both directions).** When an inline (or global) filter for the lint is the
most recent on the stack, the result does not depend on the configured severity the diagnostic
arrived with: an inline `deny` resurrects a lint configured `allow`, an inline `allow` silences a
lint configured `deny`. -/
theorem C10_inline_wins (stack : List Config) (c : Config) (d : Diag) (s : Sev) (hc : c.lint = d.code) :
    decide1 (c :: stack) { d with sev := s } = (decide1 (c :: stack) d).map fun r => { r with sev := c.sev } := by
  rw [decide1_cons, decide1_cons, if_pos hc, if_pos hc]
  unfold Spec.applySev
  split <;> rfl

/-- with no filter for its lint, a diagnostic keeps the configured severity -/
theorem C10_config_kept (stack : List Config) (d : Diag) (h : ∀ c ∈ stack, c.lint ≠ d.code) :
    decide1 stack d = some d := decide1_unmatched stack d h

/-- **C10 (defaults).** A lint absent from the configuration keeps its built-in default — checked
against the table regenerated from `use_lints!{}` and every `const SEVERITY`. -/
theorem C10_defaults (cfg : List (String × Sev)) (lint : String) (h : cfg.find? (·.1 = lint) = none) :
    severityOf cfg lint = defaultSeverity lint := by
  simp [severityOf, h]

theorem C10_cyclomatic_silent_by_default : defaultSeverity "high_cyclomatic_complexity" = some .allow := by
  -- by `simp`: the kernel would decode the string literals byte by byte
  simp [defaultSeverity, Selene.Generated.lints, genSev]

/-- every registered lint has a known default (the generated table has no `unknown` entry) -/
theorem C10_table_complete : Selene.Generated.lints.all (fun r => r.2 ≠ .unknown) = true := by decide +kernel

/-- **C10 (allow silent).** Diagnostics carrying `allow` contribute nothing to counts or exit status
(from C19). -/
theorem C10_allow_silent (sevs : List Selene.Cli.Sev) :
    (Selene.Cli.FileOutcome.linted sevs).counts =
      (Selene.Cli.FileOutcome.linted (sevs.filter (· ≠ .allow))).counts :=
  Selene.Props.C19.C19_allow_silent sevs

open Selene.Lints.Cyclomatic in
/-- **the complexity attributed to a function is one plus the number of decision points** (`if`, `elseif`,
`while`, `repeat`, `for`, `and`, `or`) its body's walk reaches — whatever the traversal order or the starting
value of the accumulator (`CyclomaticProof.lean`) -/
theorem C10_cyclomatic_is_count (sp : Selene.Lua.Span) (ps : List Selene.Lua.Param) (b : Selene.Lua.Block) :
    complexity (.mk sp ps b) = 1 + Doc.ptsB b := complexity_eq sp ps b

open Selene.Lints.Cyclomatic in
/-- a function is reported exactly when that count reaches the configured maximum: with the lint enabled at
`maximum_complexity = m`, a function with fewer than `m` decision points is silent -/
theorem C10_cyclomatic_reported_iff (max start : Nat) (sp : Selene.Lua.Span) (ps : List Selene.Lua.Param) (b : Selene.Lua.Block) :
    diagOf max start (.mk sp ps b) ≠ [] ↔ Doc.ptsB b ≥ max := reported_iff max start sp ps b

end Selene.Props.C10
