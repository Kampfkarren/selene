/-
C18 — multi-threaded runs report the same results as a sequential run.
-/
import Selene.Cli.Pool
namespace Selene.Props.C18
open Selene.Cli

/-! ### totals: `fetch_add` commutes -/

theorem bump_comm (c : Counts) (a b : Ctr × Nat) :
    (c.bump a.1 a.2).bump b.1 b.2 = (c.bump b.1 b.2).bump a.1 a.2 := by
  obtain ⟨ca, na⟩ := a; obtain ⟨cb, nb⟩ := b
  cases ca <;> cases cb <;> simp only [Counts.bump, Nat.add_right_comm]

/-- **C18 (totals).** Whatever order the workers' counter updates are interleaved in, the totals
are the same: any permutation of the additions (a superset of the schedules any thread count can
produce) yields the same counters — hence the same as the sequential run. -/
theorem C18_totals {l₁ l₂ : List (Ctr × Nat)} (h : l₁.Perm l₂) : sumAdds l₁ = sumAdds l₂ :=
  h.foldl_eq' (fun a _ b _ c => bump_comm c a b) {}

/-- **C18 (exit).** The exit status is a function of the totals only, hence identical for every
interleaving of the same jobs. -/
theorem C18_exit {l₁ l₂ : List (Ctr × Nat)} (h : l₁.Perm l₂) (panics : Nat) (aw : Bool) :
    exitCode (sumAdds l₁) 0 panics aw = exitCode (sumAdds l₂) 0 panics aw := by
  rw [C18_totals h]

def effect (st : PoolSt) : Ev → PoolSt
  | .jobStart t f => { st with jobs := (t, f) :: st.jobs }
  | .jobEnd t => { st with jobs := st.jobs.filter (·.1 ≠ t) }
  | .add _ c n => { st with counts := st.counts.bump c n }
  | .lock t => { st with holder := some t }
  | .unlock t => { st with holder := none, cur := [],
                           blocks := st.blocks ++ [{ tid := t, file := (jobOf st t).getD "", emits := st.cur }] }
  | .emit t code pos => { st with cur := st.cur ++ [{ tid := t, code, pos }] }
  | .totals _ _ _ => { st with totalsSeen := true }

def lockOk (st : PoolSt) : Ev → Prop
  | .lock _ => st.holder = none
  | .unlock t => st.holder = some t
  | .emit t _ _ => st.holder = some t
  | _ => True

theorem ok_of_ite_error {ε α : Type} {c : Prop} [Decidable c] {m : ε} {r : Except ε α} {y : α}
    (h : (if c then .error m else r) = .ok y) : ¬ c ∧ r = .ok y := by
  by_cases hc : c
  · rw [if_pos hc] at h; cases h
  · exact ⟨hc, (if_neg hc).symm.trans h⟩

theorem ok_of_ite_ok {ε α : Type} {c : Prop} [Decidable c] {m : ε} {x y : α}
    (h : (if c then .ok x else .error m) = Except.ok y) : c ∧ x = y := by
  by_cases hc : c
  · exact ⟨hc, Except.ok.inj ((if_pos hc).symm.trans h)⟩
  · rw [if_neg hc] at h; cases h

theorem step_ok (st st' : PoolSt) (e : Ev) (h : step st e = .ok st') : lockOk st e ∧ st' = effect st e := by
  cases e with
  | add t c n => cases h; exact ⟨trivial, rfl⟩
  | jobStart t f => exact ⟨trivial, (Except.ok.inj (ok_of_ite_error h).2).symm⟩
  | jobEnd t => exact ⟨trivial, (Except.ok.inj (ok_of_ite_error (ok_of_ite_error h).2).2).symm⟩
  | lock t =>
    dsimp only [step] at h
    split at h
    · cases h
    · rename_i hfree
      cases h
      exact ⟨hfree, rfl⟩
  | unlock t => exact ⟨(ok_of_ite_ok h).1, (ok_of_ite_ok h).2.symm⟩
  | emit t c p => exact ⟨(ok_of_ite_ok h).1, (ok_of_ite_ok h).2.symm⟩
  | totals p e w => exact ⟨trivial, (ok_of_ite_ok (ok_of_ite_error (ok_of_ite_error h).2).2).2.symm⟩

theorem run_induction {st' : PoolSt} {motive : PoolSt → List Ev → Prop} (nil : motive st' [])
    (cons : ∀ st e rest, lockOk st e → motive (effect st e) rest → motive st (e :: rest))
    {st : PoolSt} {evs : List Ev} (h : run st evs = .ok st') : motive st evs := by
  induction evs generalizing st with
  | nil => cases h; exact nil
  | cons e rest ih =>
    unfold run at h
    split at h
    · rename_i st1 hs
      obtain ⟨hl, rfl⟩ := step_ok st st1 e hs
      exact cons st e rest hl (ih h)
    · cases h

/-- **C18 (summary).** In an accepted trace the summary line carries exactly the sum of all
additions made by all workers. -/
theorem C18_summary (evs : List Ev) (st' : PoolSt) (h : run {} evs = .ok st') :
    st'.counts = sumAdds (addsOf evs) :=
  run_induction (motive := fun st evs => st'.counts = (addsOf evs).foldl (fun acc cn => acc.bump cn.1 cn.2) st.counts)
    rfl (fun st e rest _ ih => ih.trans (by cases e <;> rfl)) h

/-! ### stdout: accepted traces are concatenations of single-thread blocks -/

def blockEmits (bs : List Block) : List Emit := bs.flatMap (·.emits)

/-- **C18 (blocks).** Everything an accepted run writes to stdout is the concatenation, in order,
of the closed lock spans (plus the span still open): no write falls outside a span, spans do not
overlap, and a span contains the writes of one thread only. -/
theorem C18_blocks (evs : List Ev) (st st' : PoolSt) (h : run st evs = .ok st') :
    blockEmits st'.blocks ++ st'.cur = blockEmits st.blocks ++ st.cur ++ emitsOf evs := by
  refine run_induction (motive := fun st evs => _ = blockEmits st.blocks ++ st.cur ++ emitsOf evs)
    (List.append_nil _).symm (fun st e rest _ ih => ih.trans ?_) h
  cases e with
  | unlock t =>
    simp only [effect, emitsOf, blockEmits, List.flatMap_append, List.flatMap_singleton, List.append_nil]
  | emit t c p => simp only [effect, emitsOf, List.append_assoc, List.singleton_append]
  | _ => rfl

/-- every write of a span carries the span's thread (third clause: what `lock` needs to start a span of its own) -/
def spanPure (st : PoolSt) : Prop :=
  (∀ b ∈ st.blocks, ∀ e ∈ b.emits, e.tid = b.tid) ∧
  (∀ e ∈ st.cur, st.holder = some e.tid) ∧ (st.holder = none → st.cur = [])

theorem effect_pure (st : PoolSt) (e : Ev) (hl : lockOk st e) (hp : spanPure st) : spanPure (effect st e) := by
  obtain ⟨h1, h2, h3⟩ := hp
  cases e with
  | lock t => exact ⟨h1, h3 hl ▸ List.forall_mem_nil _, nofun⟩
  | unlock t =>
    refine ⟨List.forall_mem_append.mpr ⟨h1, List.forall_mem_singleton.mpr fun e he => ?_⟩, ?_, ?_⟩
    · show e.tid = t
      exact Option.some.inj ((h2 e he).symm.trans hl)
    · exact List.forall_mem_nil _
    · exact fun _ => rfl
  | emit t c p =>
    refine ⟨h1, List.forall_mem_append.mpr ⟨h2, List.forall_mem_singleton.mpr ?_⟩, ?_⟩
    · show st.holder = some t
      exact hl
    · intro (hn : st.holder = none)
      exact nomatch hl.symm.trans hn
  | _ => exact ⟨h1, h2, h3⟩

theorem C18_span_single_thread (evs : List Ev) (st st' : PoolSt) (h : run st evs = .ok st')
    (hp : spanPure st) : spanPure st' :=
  run_induction (motive := fun st _ => spanPure st → spanPure st') id
    (fun st e _ hl ih hp => ih (effect_pure st e hl hp)) h hp

/-! ### non-vacuity: a two-thread trace the model accepts, and two it rejects -/
private def good : List Ev :=
  [.jobStart "T1" "a.lua", .jobStart "T2" "b.lua", .add "T2" .warnings 1, .add "T1" .errors 2,
   .lock "T2", .emit "T2" "unused_variable" 6, .unlock "T2", .lock "T1", .emit "T1" "undefined_variable" 0,
   .emit "T1" "undefined_variable" 9, .unlock "T1", .jobEnd "T1", .jobEnd "T2", .totals 0 2 1]

example : (match run {} good with | .ok st => blocksOk st.blocks && st.totalsSeen | .error _ => false) = true := by
  decide +kernel
example : (match run {} [.jobStart "T1" "a.lua", .lock "T1", .jobStart "T2" "b.lua", .lock "T2"] with
    | .ok _ => true | .error _ => false) = false := by decide +kernel
example : (match run {} [.jobStart "T1" "a.lua", .emit "T1" "x" 0] with
    | .ok _ => true | .error _ => false) = false := by decide +kernel
/-- releasing the lock between two lint diagnostics of one file is caught structurally -/
example : (match run {} [.jobStart "T1" "a.lua", .lock "T1", .emit "T1" "x" 0, .unlock "T1", .lock "T1",
      .emit "T1" "y" 5, .unlock "T1", .jobEnd "T1"] with
    | .ok st => blocksOk st.blocks | .error _ => false) = false := by decide +kernel

end Selene.Props.C18
