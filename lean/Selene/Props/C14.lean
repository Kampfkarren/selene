/-
C14 — diagnostics do not depend on how script-chosen names are spelled.

Full statement (DESIGN §4 C14): for an injective renaming ρ of script-introduced names that keeps
ignore-pattern status and avoids library segments, special names and string literals,
`diags (rename ρ t) = (diags t).map (renameMsg ρ)` in token space.

Proved here: `C14_log_invariant` — for every injective renaming ρ of identifiers that fixes `...` and `self` and keeps
every name on its side of the name filter, the scope-stack machine of `Scope/Core.lean` answers for the renamed chunk
exactly what it answers for the original (`C14_resolution_invariant`, `C14_shadowing_invariant`: its projections); a
fresh-name renaming of some locals is the restriction of such a ρ — swap each old name with its unused new one.  The idea
(`Scope/RenameProof.lean`): every environment lookup is an equality test on names, which ρ preserves.  `lookup_rename`,
`lookup_rename_fresh` and `declare_rename` say the same of the source-order resolver's environment.
What the lints add on top of the resolution — library lookups by name, the ignore pattern, message texts — is where the
property's side conditions come from; that part is checked on the real code by the twin runs (including renamings to
very long names), and proved for the two lints whose triggers mention names: `C14_clone_shape_invariant`,
`C14_roact_reports_invariant`.  `C14_special_spellings` fixes the list of spellings that lints compare names with.
-/
import Selene.Scope.Spec
import Selene.Scope.RenameProof
import Selene.Scope.CoreProof
import Selene.Scope.ManualTableCloneRename
import Selene.Generated.SpecialNames
import Selene.Lints.RoactRename
namespace Selene.Props.C14
open Selene.Scope.Spec

/-- **C14 (resolution and shadowing are spelling-independent).** For every chunk, every name filter and
every injective renaming ρ of identifiers that fixes `...` and `self` and keeps every name on its side
of the filter (the property's "does not match an ignore pattern before or after"), the machine's whole
log — every read with the declaration it denotes, every kept declaration with the declaration it
shadows — is the same for the renamed chunk. -/
theorem C14_log_invariant [Selene.Scope.Core.NameFilter] (ρ : String → String)
    (hρ : Selene.Scope.RenameProof.Renaming ρ) (b : Selene.Lua.Block) :
    (Selene.Scope.Core.analyse (b.ren ρ)).log = (Selene.Scope.Core.analyse b).log := by
  rw [Selene.Scope.CoreProof.analyse_eq, Selene.Scope.CoreProof.analyse_eq, Selene.Scope.RenameProof.chunk_ren hρ]

theorem C14_resolution_invariant [Selene.Scope.Core.NameFilter] (ρ : String → String)
    (hρ : Selene.Scope.RenameProof.Renaming ρ) (b : Selene.Lua.Block) :
    (Selene.Scope.Core.analyse (b.ren ρ)).answers = (Selene.Scope.Core.analyse b).answers := by
  rw [← Selene.Scope.CoreProof.log_answers, ← Selene.Scope.CoreProof.log_answers, C14_log_invariant ρ hρ b]

theorem C14_shadowing_invariant [Selene.Scope.Core.NameFilter] (ρ : String → String)
    (hρ : Selene.Scope.RenameProof.Renaming ρ) (b : Selene.Lua.Block) :
    (Selene.Scope.Core.analyse (b.ren ρ)).shadows = (Selene.Scope.Core.analyse b).shadows := by
  rw [← Selene.Scope.CoreProof.log_shadows, ← Selene.Scope.CoreProof.log_shadows, C14_log_invariant ρ hρ b]

def swap (x y n : String) : String := if n = x then y else if n = y then x else n

theorem swap_swap (x y n : String) : swap x y (swap x y n) = n := by
  unfold swap
  by_cases h1 : n = x
  · by_cases h2 : y = x <;> simp [h1, h2]
  · by_cases h3 : n = y <;> simp [h1, h3]

theorem swap_inj (x y a b : String) (h : swap x y a = swap x y b) : a = b := by
  rw [← swap_swap x y a, h, swap_swap]

/-- hypotheses are satisfiable by a renaming that is not the identity: swap `x` and `fresh` (under a
    filter that drops `_` and `...`) -/
def underscoreFilter : Selene.Scope.Core.NameFilter := { keep := fun n => n != "_" && n != "..." }
example : @Selene.Scope.RenameProof.Renaming underscoreFilter
    (fun n => if n = "x" then "fresh" else if n = "fresh" then "x" else n) := by
  refine @Selene.Scope.RenameProof.Renaming.mk underscoreFilter _ (swap_inj "x" "fresh") (by simp) (by simp) ?_
    (fun _ => rfl) (fun _ => rfl)
  intro n
  unfold Selene.Scope.Core.NameFilter.keep underscoreFilter
  by_cases h1 : n = "x"
  · simp [h1]
  · by_cases h2 : n = "fresh"
    · simp [h2]
    · simp [h1, h2]

def renameEnv (ρ : String → String) (env : Env) : Env := env.map fun e => (ρ e.1, e.2)

/-- **lookup commutes with renaming.** If ρ is injective on the names bound in the environment
together with the queried name, looking the renamed name up in the renamed environment gives the
same declaration. -/
theorem lookup_rename (ρ : String → String) (env : Env) (n : String)
    (hinj : ∀ e ∈ env, ρ e.1 = ρ n → e.1 = n) :
    (renameEnv ρ env).lookup (ρ n) = env.lookup n :=
  Selene.Scope.RenameProof.lookup_renEnv ρ env n hinj

/-- a fresh name (not bound anywhere in the environment) is unbound after renaming as before -/
theorem lookup_rename_fresh (ρ : String → String) (env : Env) (n : String)
    (hinj : ∀ e ∈ env, ρ e.1 = ρ n → e.1 = n) (h : env.lookup n = none) :
    (renameEnv ρ env).lookup (ρ n) = none :=
  (lookup_rename ρ env n hinj).trans h

/-- declaring under the renamed name is the renaming of declaring under the old one -/
theorem declare_rename (ρ : String → String) (env : Env) (t : Nat) (name : String) (k : DeclKind) :
    renameEnv ρ ((name, some (t, k)) :: env) = (ρ name, some (t, k)) :: renameEnv ρ env := rfl

/-- non-vacuity of `lookup_rename`: a renaming to a very long fresh name -/
example :
    let ρ : String → String := fun s => if s = "a" then "zq1_a_very_long_fresh_identifier_name_beyond_32" else s
    let env : Env := [("a", some (3, .local_)), ("b", some (1, .param))]
    (renameEnv ρ env).lookup (ρ "a") = some (3, .local_) ∧ (renameEnv ρ env).lookup (ρ "b") = some (1, .param) := by
  decide +kernel

open Selene.Scope.ManualTableClone in
/-- **C14 (manual_table_clone: only `pairs`, `ipairs`, `next` are special).** For every generic `for` loop and every
injective renaming that leaves these three spellings alone, the renamed loop has the shape the lint looks for exactly
when the original has — with the same loop type (which decides the `ipairs` note), the renamed loop expression (quoted in
the note) and the renamed table.  A name that merely *ends* in `pairs` is a script-chosen name like any other. -/
theorem C14_clone_shape_invariant {ρ : String → String} (h : Respectful ρ)
    (names : List Selene.Lua.Tok) (es : Selene.Lua.ExprList) (b : Selene.Lua.Block) :
    shape (names.map (Selene.Lua.Tok.ren ρ)) (es.ren ρ) (b.ren ρ) =
      (shape names es b).map fun p => (p.1, p.2.1.ren ρ, p.2.2.ren ρ) :=
  shape_ren h names es b

/-- the hypothesis is satisfiable by a renaming that is not the identity … -/
example : Selene.Scope.ManualTableClone.Respectful (fun n => if n = "spairs" then "walked" else if n = "walked" then "spairs" else n) :=
  ⟨swap_inj "spairs" "walked", by simp, by simp, by simp⟩

open Selene.Lua Selene.Scope.ManualTableClone in
/-- … and the loop of the seeded defect (`for name, score in spairs(scores, descending) do copy[name] = score end`) has the
shape — looping over the whole call, not through `pairs` — whatever the iterator is called -/
example :
    let loop := fun (f : String) =>
      shape [⟨1, "name"⟩, ⟨3, "score"⟩]
        (.cons (.call (.mk ⟨5, 10⟩ (.name ⟨5, f⟩) (.cons (.args ⟨6, 10⟩ (.parens ⟨6, 10⟩
          (.cons (.var (.name ⟨7, "scores"⟩)) (.cons (.var (.name ⟨9, "descending"⟩)) .nil)))) .nil))) .nil)
        (.mk (some ⟨12, 17⟩) (.cons (.assign ⟨12, 17⟩
          (.cons (.expr ⟨12, 15⟩ (.name ⟨12, "copy"⟩) (.cons (.idx ⟨13, 15⟩ (.var (.name ⟨14, "name"⟩))) .nil)) .nil)
          (.cons (.var (.name ⟨17, "score"⟩)) .nil)) .nil) .none)
    ((loop "spairs").map fun p => (p.1, p.2.2.text)) = some (.other, "copy") ∧
    ((loop "walked").map fun p => (p.1, p.2.2.text)) = some (.other, "copy") ∧
    (loop "pairs").isNone := by
  decide +kernel

/-- **C14 (roblox_incorrect_roact_usage: only `Roact` and `React` are special).** For every chunk, every class table and every
injective renaming of variables that leaves these two spellings alone, the lint makes the same reports — same places, same
messages, same order — on the renamed chunk; the locals that stand for `createElement` (`local e = Roact.createElement`)
may be called anything.  (Compared is `Diag.core`, the first token of each report's range and its message: the note of
the `Name` report and the end of an event report's range read the token texts, of which nothing is assumed here — `toks`
and `toks'` are arbitrary.) -/
theorem C14_roact_reports_invariant {ρ : String → String} (h : Selene.Lints.Roact.Respectful ρ) (enabled : Bool)
    (toks toks' : List String) (cs : Selene.Std.Roblox.Classes) (b : Selene.Lua.Block) :
    (Selene.Lints.Roact.run enabled toks' cs (b.ren ρ)).map Selene.Lints.Roact.Diag.core =
      (Selene.Lints.Roact.run enabled toks cs b).map Selene.Lints.Roact.Diag.core :=
  Selene.Lints.Roact.run_ren h enabled toks toks' cs b

example : Selene.Lints.Roact.Respectful (fun n => if n = "e" then "zq1v" else if n = "zq1v" then "e" else n) :=
  ⟨swap_inj "e" "zq1v", by simp, by simp⟩

/-- **C14 (the special spellings are these).** `tools/translate.py` collects, from every lint's source file and the helpers
lints share, the string literals that names are compared with (`== "x"`, match arms, `[..].contains`); the table is
regenerated on every run and must be this one.  A change that makes another spelling special — or special in another way than
by such a comparison — shows up here or in the twin runs.  Identifier spellings among them: `_G`, `shared` (global_usage);
`pairs`, `ipairs`, `next` (manual_table_clone: `C14_clone_shape_invariant`); `Roact`, `React`, `createElement`, `Event`, `Name`,
`ref`, `key`, `children` (roblox_incorrect_roact_usage: `Lints/Roact.lean`); `Color3`, `UDim2`, `new` (the Roblox constructor
lints); `type`, `typeof` (type_check_inside_call); `...` (shadowing); `game`, `plugin`, `script`, `workspace` (the
"found in the roblox standard library" note).  The rest are characters of escape sequences, `*` and `nil`. -/
theorem C14_special_spellings :
    Selene.Generated.specialNames = [
      ("lints/bad_string_escape.rs", ["", "'", "0", "1", "2", "3", "4", "5", "6", "7", "8", "9", "a", "b", "f", "n", "r", "t", "u{", "v", "x", "z"]),
      ("lints/deprecated.rs", ["*", "nil"]),
      ("lints/global_usage.rs", ["_G", "shared"]),
      ("lints/manual_table_clone.rs", ["ipairs", "manual_table_clone", "next", "pairs"]),
      ("lints/roblox_incorrect_color3_new_bounds.rs", ["Color3", "new"]),
      ("lints/roblox_incorrect_roact_usage.rs", ["Event", "Name", "React", "Roact", "children", "createElement", "key", "ref"]),
      ("lints/roblox_manual_fromscale_or_fromoffset.rs", ["UDim2", "new"]),
      ("lints/roblox_suspicious_udim2_new.rs", ["UDim2", "new"]),
      ("lints/shadowing.rs", ["..."]),
      ("ast_util/mod.rs", ["type", "typeof"]),
      ("possible_std.rs", ["game", "plugin", "script", "workspace"])] := rfl

end Selene.Props.C14
