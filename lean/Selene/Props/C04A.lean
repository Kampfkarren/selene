/-
C04 (half A) — the expression-level closed-form lints fire exactly on their documented condition.

For each lint `L` (model `L.lint`, the transcription of the Rust visitor; specification `Doc.L`,
`Canon.L` written from docs/src/lints/L.md with literals judged by value):

* `L_sound`  — every diagnostic of the model is justified by a node of the program that satisfies
               the documented condition.  Where the code violates this, the theorem carries the
               hypothesis that excludes the defect and `L_defect` is a concrete program on which the
               model (= the code, by the correspondence run) reports an unjustified diagnostic: only
               duplicate_keys (`plainKeys`, `duplicate_keys_defect`).
* `L_fixed_…` — the model evaluated on an input that selene judged wrongly before the /repo commit named at
               the theorem (9a12c1a, fe466a6, 1da8247, 13926c7, ca6ead7, e3c77cd).
* `L_by_value` — where the code judges literals by value: the pattern is reported in every context
               however its literals are spelled.
* `L_canon`  — the documented canonical pattern is reported in EVERY context: for every node `n`
               that requires a diagnostic, every statement `s` containing `n` and every one-hole
               context `ctx` (any block position at any nesting depth), `L.lint (ctx.plug s)` contains
               the diagnostic.
-/
import Selene.Lints.ExamplesA
import Selene.Lints.LemmasANumerals
import Selene.Lints.EscapeProof
import Selene.Lints.DupKeysComplete
namespace Selene.Props.C04A
open Selene.Lua Selene.Lints

theorem context_preserves_nodes (ctx : BCtx) (s : Stmt) (n : Node) (h : n ∈ nodesS s) : n ∈ nodesB (ctx.plug s) :=
  nodes_plug ctx s n h

example : Ex.deepCtx.depth = 3 := by decide +kernel

theorem divide_by_zero_sound (b : Block) (g : Diag) (h : g ∈ DivideByZero.lint b) :
    ∃ n ∈ nodesB b, Doc.divideByZero n g = true :=
  sound_lift DivideByZero.hook_sound h

/-- the lint's zero test is the by-value test (`ast_util::number_is_zero`, /repo 1da8247) -/
theorem number_is_zero_by_value (text : String) : numberIsZero text = zeroText text := numberIsZero_eq text

set_option exponentiation.threshold 1100 in
/-- `x = 0.0 / 0` is not reported: `0/0` is documented as allowed, however the zeros are spelled (/repo 1da8247) -/
theorem divide_by_zero_fixed_zero_dividend : DivideByZero.lint (Ex.prog Ex.divDefect) = [] := by decide +kernel

theorem divide_by_zero_canon (n : Node) (x : Expect) (hx : x ∈ Canon.divideByZero n) (s : Stmt) (hn : n ∈ nodesS s)
    (ctx : BCtx) : ∃ g ∈ DivideByZero.lint (ctx.plug s), x.matches g = true :=
  canon_lift DivideByZero.hook_canon hx hn ctx

/-- `n / <zero>` is reported in every context however the zero is spelled -/
theorem divide_by_zero_by_value (n : Node) (x : Expect) (hx : x ∈ ByValue.divideByZero n) (s : Stmt) (hn : n ∈ nodesS s)
    (ctx : BCtx) : ∃ g ∈ DivideByZero.lint (ctx.plug s), x.matches g = true :=
  canon_lift DivideByZero.hook_byValue hx hn ctx

set_option exponentiation.threshold 1100 in
example : Canon.divideByZero (.expr (Ex.divBy0 "1")) ≠ [] ∧ Node.expr (Ex.divBy0 "1") ∈ nodesS Ex.divCanon := by
  exact ⟨by decide +kernel, .tail _ (.head _)⟩

set_option exponentiation.threshold 1100 in
example : ByValue.divideByZero (.expr (.bin ⟨2, 4⟩ (.num ⟨2, "1"⟩) ⟨3, "/"⟩ (.num ⟨4, "0x00"⟩))) ≠ [] := by decide +kernel

theorem compare_nan_sound (b : Block) (g : Diag) (h : g ∈ CompareNan.lint b) : ∃ n ∈ nodesB b, Doc.compareNan n g = true :=
  sound_lift CompareNan.hook_sound h

theorem compare_nan_canon (n : Node) (x : Expect) (hx : x ∈ Canon.compareNan n) (s : Stmt) (hn : n ∈ nodesS s)
    (ctx : BCtx) : ∃ g ∈ CompareNan.lint (ctx.plug s), x.matches g = true :=
  canon_lift CompareNan.hook_canon hx hn ctx

/-- `x == <zero>/<zero>` is reported in every context however the zeros are spelled -/
theorem compare_nan_by_value (n : Node) (x : Expect) (hx : x ∈ ByValue.compareNan n) (s : Stmt) (hn : n ∈ nodesS s)
    (ctx : BCtx) : ∃ g ∈ CompareNan.lint (ctx.plug s), x.matches g = true :=
  canon_lift CompareNan.hook_byValue hx hn ctx

set_option exponentiation.threshold 1100 in
example : Canon.compareNan (.expr Ex.nanExpr) ≠ [] ∧ CompareNan.lint (Ex.deepCtx.plug Ex.nanCanon) ≠ [] := by decide +kernel

theorem suspicious_reverse_loop_sound (b : Block) (g : Diag) (h : g ∈ SuspiciousReverseLoop.lint b) :
    ∃ n ∈ nodesB b, Doc.suspiciousReverseLoop n g = true :=
  sound_lift SuspiciousReverseLoop.hook_sound h

example : SuspiciousReverseLoop.lint (Ex.prog (Ex.loop "1")) ≠ [] := by decide +kernel

/-- `for i = #t, 0x10 do end` is not reported: the bound is read as 16 (/repo 9a12c1a, fe466a6) -/
theorem suspicious_reverse_loop_fixed_hex : SuspiciousReverseLoop.lint (Ex.prog (Ex.loop "0x10")) = [] := by decide +kernel

/-- `for i = #t, 1.00000001 do end` is not reported: the bound is read as an `f64` (/repo 9a12c1a) -/
theorem suspicious_reverse_loop_fixed_rounding : SuspiciousReverseLoop.lint (Ex.prog (Ex.loop "1.00000001")) = [] := by decide +kernel

theorem suspicious_reverse_loop_canon (n : Node) (x : Expect) (hx : x ∈ Canon.suspiciousReverseLoop n) (s : Stmt)
    (hn : n ∈ nodesS s) (ctx : BCtx) : ∃ g ∈ SuspiciousReverseLoop.lint (ctx.plug s), x.matches g = true :=
  canon_lift SuspiciousReverseLoop.hook_canon hx hn ctx

example : Canon.suspiciousReverseLoop (.stmt (Ex.loop "1")) ≠ [] ∧ Node.stmt (Ex.loop "1") ∈ nodesS (Ex.loop "1") := by
  exact ⟨by decide +kernel, .head _⟩

/-- the lint's bound test is the by-value test for every spelling (`number_value`, /repo fe466a6) -/
theorem bound_test_by_value (text : String) : numberValueLeOne text = leOneText text := numberValueLeOne_eq text

/-- a bound denoting a value `≤ 1`, spelled in any form (`1.0`, `1e0`, `10e-1`, `0.5`, `0x1`, `0X00`, …), is
reported in every context -/
theorem suspicious_reverse_loop_by_value (n : Node) (x : Expect) (hx : x ∈ ByValue.suspiciousReverseLoop n) (s : Stmt)
    (hn : n ∈ nodesS s) (ctx : BCtx) : ∃ g ∈ SuspiciousReverseLoop.lint (ctx.plug s), x.matches g = true :=
  canon_lift SuspiciousReverseLoop.hook_byValue hx hn ctx

example : ByValue.suspiciousReverseLoop (.stmt (Ex.loop "10e-1")) ≠ [] ∧ ByValue.suspiciousReverseLoop (.stmt (Ex.loop "0x1")) ≠ [] := by decide +kernel

/-- `for i = #t, 0x1 do end` is reported, in any context (/repo fe466a6) -/
theorem suspicious_reverse_loop_fixed_hex_one (ctx : BCtx) :
    ∃ g ∈ SuspiciousReverseLoop.lint (ctx.plug (Ex.loop "0x1")), g.primary = ⟨3, 6⟩ := by
  have hg : { code := "suspicious_reverse_loop", primary := ⟨3, 6⟩, msg := SuspiciousReverseLoop.message } ∈
      SuspiciousReverseLoop.hook (.stmt (Ex.loop "0x1")) := .head _
  exact ⟨_, runLint_plug _ ctx (.head _) hg, rfl⟩

theorem mixed_table_sound (b : Block) (g : Diag) (h : g ∈ MixedTable.lint b) : ∃ n ∈ nodesB b, Doc.mixedTable n g = true :=
  sound_lift MixedTable.hook_sound h

theorem mixed_table_canon (n : Node) (x : Expect) (hx : x ∈ Canon.mixedTable n) (s : Stmt) (hn : n ∈ nodesS s)
    (ctx : BCtx) : ∃ g ∈ MixedTable.lint (ctx.plug s), x.matches g = true :=
  canon_lift MixedTable.hook_canon hx hn ctx

example : MixedTable.lint (Ex.deepCtx.plug Ex.mixedCanon) ≠ [] := by decide +kernel

theorem constant_table_comparison_sound (b : Block) (g : Diag) (h : g ∈ ConstantTableComparison.lint b) :
    ∃ n ∈ nodesB b, Doc.constantTableComparison n g = true :=
  sound_lift ConstantTableComparison.hook_sound h

theorem constant_table_comparison_canon (n : Node) (x : Expect) (hx : x ∈ Canon.constantTableComparison n) (s : Stmt)
    (hn : n ∈ nodesS s) (ctx : BCtx) : ∃ g ∈ ConstantTableComparison.lint (ctx.plug s), x.matches g = true :=
  canon_lift ConstantTableComparison.hook_canon hx hn ctx

example : Canon.constantTableComparison (.expr Ex.ctcExpr) ≠ [] ∧ ConstantTableComparison.lint (Ex.deepCtx.plug Ex.ctcCanon) ≠ [] := by decide +kernel

theorem type_check_inside_call_sound (roblox : Bool) (b : Block) (g : Diag) (h : g ∈ TypeCheckInsideCall.lint roblox b) :
    ∃ n ∈ nodesB b, Doc.typeCheckInsideCall roblox n g = true :=
  sound_lift (TypeCheckInsideCall.hook_sound roblox) h

theorem type_check_inside_call_canon (roblox : Bool) (n : Node) (x : Expect) (hx : x ∈ Canon.typeCheckInsideCall roblox n)
    (s : Stmt) (hn : n ∈ nodesS s) (ctx : BCtx) : ∃ g ∈ TypeCheckInsideCall.lint roblox (ctx.plug s), x.matches g = true :=
  canon_lift (TypeCheckInsideCall.hook_canon roblox) hx hn ctx

example : Canon.typeCheckInsideCall false (.call Ex.typeCall) ≠ [] ∧ TypeCheckInsideCall.lint false (Ex.deepCtx.plug Ex.typeCanon) ≠ [] := by decide +kernel

theorem parenthese_conditions_sound (b : Block) (g : Diag) (h : g ∈ ParentheseConditions.lint b) :
    ∃ n ∈ nodesB b, Doc.parentheseConditions n g = true :=
  sound_lift ParentheseConditions.hook_sound h

theorem parenthese_conditions_canon (n : Node) (x : Expect) (hx : x ∈ Canon.parentheseConditions n) (s : Stmt)
    (hn : n ∈ nodesS s) (ctx : BCtx) : ∃ g ∈ ParentheseConditions.lint (ctx.plug s), x.matches g = true :=
  canon_lift ParentheseConditions.hook_canon hx hn ctx

example : Canon.parentheseConditions (.stmt Ex.whileParen) ≠ [] ∧ ParentheseConditions.lint (Ex.deepCtx.plug Ex.whileParen) ≠ [] := by decide +kernel

theorem duplicate_keys_sound (b : Block) (g : Diag) (h : g ∈ DuplicateKeys.lint b)
    (hplain : (nodesB b).all plainKeys = true) : ∃ n ∈ nodesB b, Doc.duplicateKeys n g = true :=
  sound_lift_on (fun n hn g hg => DuplicateKeys.hook_sound n g hg (List.all_eq_true.mp hplain n hn)) h

example : (nodesB (Ex.prog Ex.dupCanon)).all plainKeys = true ∧ DuplicateKeys.lint (Ex.prog Ex.dupCanon) ≠ [] := by decide +kernel

/-- `{ ["\n"] = 1, [ [[\n]] ] = 2 }` (a line feed; a backslash and an `n`) is reported as a duplicate:
the raw text between the delimiters is compared whatever the quote kind -/
theorem duplicate_keys_defect :
    ∃ g ∈ DuplicateKeys.lint (Ex.prog Ex.dupDefect), ∀ n ∈ nodesB (Ex.prog Ex.dupDefect), Doc.duplicateKeys n g = false := by
  decide +kernel

/-- **duplicate_keys, completeness in every context.** A field whose key — spelled as the documentation
spells keys: a name, a quoted string without escapes, a plain decimal integer, an array item — was already
declared by an earlier field of the same table is reported, wherever the table stands
(`DupKeysComplete.lean`: every earlier canonical key is in `declared`; UTF-8 is injective). -/
theorem duplicate_keys_canon (n : Node) (x : Expect) (hx : x ∈ Canon.duplicateKeys n) (s : Stmt)
    (hn : n ∈ nodesS s) (ctx : BCtx) : ∃ g ∈ DuplicateKeys.lint (ctx.plug s), x.matches g = true :=
  canon_lift DuplicateKeys.hook_canon hx hn ctx

theorem duplicate_keys_canon_partial (ctx : BCtx) :
    ∃ g ∈ DuplicateKeys.lint (ctx.plug Ex.dupCanon), g.primary = ⟨7, 11⟩ ∧ g.secondary = [⟨3, 5⟩] := by
  let tbl : Node := .table ⟨2, 12⟩ (match Ex.dupCanonTbl with | .tbl _ fs => fs | _ => .nil)
  have hn : tbl ∈ nodesS Ex.dupCanon := .tail _ (.tail _ (.head _))
  have hg : { code := "duplicate_keys", primary := ⟨7, 11⟩, msg := DuplicateKeys.message "a", secondary := [⟨3, 5⟩] } ∈
      DuplicateKeys.hook tbl := .head _
  exact ⟨_, runLint_plug _ ctx hn hg, rfl, rfl⟩

example : Canon.duplicateKeys (.table ⟨2, 12⟩ (match Ex.dupCanonTbl with | .tbl _ fs => fs | _ => .nil)) = [{ primary := ⟨7, 11⟩ }] := by decide +kernel

/-- `"\3a0"` (the escape `\3` followed by `a0`) is not reported: a decimal escape is computed from its decimal digits
(/repo e3c77cd) -/
theorem bad_string_escape_fixed_hex_digits : BadStringEscape.lint false (Ex.prog (Ex.strAssign "\\3a0")) = [] := by decide +kernel

/-- (Roblox) `"\x414"` is not reported: text may follow the two hex digits of `\x` (/repo 13926c7) -/
theorem bad_string_escape_fixed_x_digits : BadStringEscape.lint true (Ex.prog (Ex.strAssign "\\x414")) = [] := by decide +kernel

/-- a backslash before CR LF is a line continuation and is not reported (/repo ca6ead7) -/
theorem bad_string_escape_fixed_crlf : BadStringEscape.lint false (Ex.prog (Ex.strAssign "a\\\r\nb")) = [] := by decide +kernel

/-- `"\256"` is reported (its three decimal digits make 256), and the report is justified (/repo e3c77cd) -/
theorem bad_string_escape_fixed_256 :
    ∃ g ∈ BadStringEscape.lint false (Ex.prog (Ex.strAssign "\\256")),
      g.sub = some (1, 5) ∧ g.msg = BadStringEscape.msgDecimal ∧
      Doc.badStringEscape false (.expr (.str ⟨2, "\"\\256\""⟩ .double "\\256")) g = true :=
  ⟨{ code := "bad_string_escape", primary := ⟨2, 2⟩, msg := BadStringEscape.msgDecimal, sub := some (1, 5) },
    .head _, rfl, rfl, by decide +kernel⟩

/-- **bad_string_escape is sound for every program** (proved in `Lints/EscapeProof.lean`: the
regular-expression scanner of the lint and the Lua lexer of the specification find their escapes at
the same backslashes — whatever either skips after an escape contains no backslash — and agree on what
is wrong with each).  The converse (`…_canon`, every documented pattern is reported in every context)
is proved for the three documented examples below and evaluated on every generated string by the
correspondence run. -/
theorem bad_string_escape_sound (roblox : Bool) (b : Block) (g : Diag) (h : g ∈ BadStringEscape.lint roblox b) :
    ∃ n ∈ nodesB b, Doc.badStringEscape roblox n g = true :=
  EscapeProof.bad_string_escape_sound roblox b g h

theorem strAssign_plug (roblox : Bool) (lit : String) (ctx : BCtx) {g : Diag}
    (h : g ∈ BadStringEscape.hook roblox (.expr (.str ⟨2, "\"" ++ lit ++ "\""⟩ .double lit))) :
    g ∈ BadStringEscape.lint roblox (ctx.plug (Ex.strAssign lit)) :=
  runLint_plug _ ctx (.tail _ (.head _)) h

theorem bad_string_escape_canon_partial (ctx : BCtx) :
    (∃ g ∈ BadStringEscape.lint false (ctx.plug (Ex.strAssign "\\m")), g.sub = some (1, 3) ∧ g.msg = BadStringEscape.msgInvalid) ∧
    (∃ g ∈ BadStringEscape.lint false (ctx.plug (Ex.strAssign "don\\'t")), g.sub = some (4, 6) ∧ g.msg = BadStringEscape.msgSingleInDouble) ∧
    (∃ g ∈ BadStringEscape.lint true (ctx.plug (Ex.strAssign "\\u{110000}")), g.sub = some (1, 11) ∧ g.msg = BadStringEscape.msgCodepoint) :=
  ⟨⟨{ code := "bad_string_escape", primary := ⟨2, 2⟩, msg := BadStringEscape.msgInvalid, sub := some (1, 3) },
      strAssign_plug false "\\m" ctx (.head _), rfl, rfl⟩,
   ⟨{ code := "bad_string_escape", primary := ⟨2, 2⟩, msg := BadStringEscape.msgSingleInDouble, sub := some (4, 6) },
      strAssign_plug false "don\\'t" ctx (.head _), rfl, rfl⟩,
   ⟨{ code := "bad_string_escape", primary := ⟨2, 2⟩, msg := BadStringEscape.msgCodepoint, sub := some (1, 11) },
      strAssign_plug true "\\u{110000}" ctx (.head _), rfl, rfl⟩⟩

end Selene.Props.C04A
