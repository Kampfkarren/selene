/-
C17 — standard libraries survive serialisation and the v1 → v2 upgrade unchanged.
Model: `Selene/Std/Serde.lean`; proofs of the two directions: `Selene/Std/SerdeLemmas.lean`.

The model is at serde's data-model level (`Val`): `ser` = `serde_yaml::to_value`, `de` =
`serde_yaml::from_value::<StandardLibrary>`.  YAML / TOML *text* is outside the model (stated
partial; the correspondence run performs the real text round trip on every generated library).
The specification is the property itself: the round trip is the identity.
-/
import Selene.Std.SerdeLemmas
namespace Selene.Props.C17
open Selene.Std Selene.Std.Serde

/-- **C17 (round trip).** Writing a well-formed library and reading it back yields an equal
library.  `WF` = every `BTreeMap` is key-sorted (always true in Rust), no `LuaVersion::Unknown(s)`
spells a known version name, `last_updated` fits an `i64` (always true in Rust). -/
theorem C17_roundtrip (l : FullLib) (h : WF l) : de (ser l) = .ok l := rt_lib l h

/-- **C17 (loaded libraries are well-formed).** Whatever document loads, loads to a well-formed
library. -/
theorem C17_loaded_wf (v : Val) (l : FullLib) (h : de v = .ok l) : WF l := loaded_wf v l h

/-- `WF` is exactly the hypothesis the round trip needs: a library that is not well-formed does
not come back equal. -/
theorem C17_roundtrip_iff (l : FullLib) : de (ser l) = .ok l ↔ WF l :=
  ⟨fun h => loaded_wf _ _ h, rt_lib l⟩

/-- **C17 (no accepted document re-serialises to something that fails to load).** -/
theorem C17_reload (v : Val) (l : FullLib) (h : de v = .ok l) : de (ser l) = .ok l :=
  rt_lib l (loaded_wf v l h)

/-- serialisation loses nothing: two well-formed libraries with the same document are equal -/
theorem C17_ser_injective (l₁ l₂ : FullLib) (h₁ : WF l₁) (h₂ : WF l₂) (h : ser l₁ = ser l₂) :
    l₁ = l₂ := by
  have e₁ := rt_lib l₁ h₁
  rw [h, rt_lib l₂ h₂] at e₁
  exact (Except.ok.inj e₁).symm

/-- **C17 (upgrade).** The library `From<v1::StandardLibrary>` builds is well-formed … -/
theorem C17_upgrade (v : V1Lib) : WF (upgrade v) := upgrade_wf v

/-- … hence the YAML document `selene upgrade-std` writes loads to exactly the library the TOML
file itself gives (both CLI paths then apply the same `extend(base)`), so every lookup and
therefore every diagnostic agrees. -/
theorem C17_upgrade_roundtrip (v : V1Lib) : de (ser (upgrade v)) = .ok (upgrade v) :=
  rt_lib _ (upgrade_wf v)

/-- lookups in the reloaded library answer as in the original, for every key -/
theorem C17_lookup_preserved (l : FullLib) (h : WF l) (k : String) :
    (de (ser l)).map (fun l' => l'.core.globals.get k) = .ok (l.core.globals.get k) := by
  rw [rt_lib l h]; rfl

/-- a library with every field kind, argument type, required-with-message, observes, deprecated
    with replace patterns, a struct, wildcard / dotted keys and YAML-hostile strings -/
def shippedLikeLib : FullLib :=
  { core :=
    { base := some "lua51", name := some "true",
      globals :=
        [("*", { kind := .any }),
         ("a.*.c", { kind := .struct "S", deprecated := some { message := "~", replace := ["new(%1)", "n(%...)"] } }),
         ("f", { kind := .function { method := true, mustUse := true, args := [{ type := .constant ["count", "", "a: b", "1e3"] },
                       { required := .required (some "needs this"), type := .display "Instance", observes := .read },
                       { required := .notRequired, type := .vararg, observes := .write,
                         deprecated := some { message := "old", replace := [] } },
                       { type := .any }, { type := .bool }, { type := .function }, { type := .nil },
                       { type := .number }, { type := .string }, { type := .table }] } }),
         ("g", { kind := .function { args := [] } }),
         ("p", { kind := .property .fullWrite }),
         ("q", { kind := .property .readOnly, deprecated := some { message := "x\ny", replace := [] } }),
         ("r", { kind := .removed })],
      structs := [("S", [("*", { kind := .any }), ("x", { kind := .property .newFields })]), ("T", [])],
      luaVersions := [.lua51, .luau, .unknown "lua55"] },
    lastUpdated := some (-3), lastSeleneVersion := some "0.27.1",
    robloxClasses := [("Part", { superclass := "Instance", events := ["Touched"], properties := [] })] }

example : WF shippedLikeLib ∧ shippedLikeLib.core.globals ≠ [] := by decide +kernel

/-- evaluated once; the next two examples rest on it -/
theorem shippedLikeLib_roundtrip : de (ser shippedLikeLib) = .ok shippedLikeLib := by decide +kernel

example : de (ser shippedLikeLib) = .ok shippedLikeLib := shippedLikeLib_roundtrip
example : ∃ v l, de v = .ok l ∧ l.core.globals ≠ [] :=
  ⟨ser shippedLikeLib, shippedLikeLib, shippedLikeLib_roundtrip, by decide⟩

/-- the excluded points really break the round trip in the model (and in the code: the
    correspondence run executes them) -/
example : ¬ WF { core := { luaVersions := [.unknown "lua51"] } } := by decide +kernel
example : de (ser { core := { luaVersions := [.unknown "lua51"] } })
    = .ok { core := { luaVersions := [.lua51] } } := by decide +kernel
example : ¬ WF { core := { globals := [("b", { kind := .any }), ("a", { kind := .any })] } } := by decide +kernel

/-- the untagged variant order decides: `any` beats `args`, `args` beats `removed`/`property`/`struct`;
    `any: false` falls through to the next variant that fits; nothing fits ⇒ error -/
example : deKind [("args", .seq []), ("any", .bool true)] = .ok .any := by decide +kernel
example : deKind [("any", .bool false), ("args", .seq [])] = .ok (.function { args := [] }) := by decide +kernel
example : deKind [("struct", .str "S"), ("property", .str "read-only"), ("removed", .bool true)]
    = .ok .removed := by decide +kernel
example : (deKind [("removed", .bool false)]).isOk = false := by decide +kernel
example : (de (.map [("bogus", .null)])).isOk = false := by decide +kernel

def v1Sample : V1Lib :=
  { selene := some { base := some "lua51",
                     structs := some [("S", [("x", .property (some .full))])] },
    globals := [("a", .complex (some { args := [{ required := .required none, type := .number }], method := false })
                   [("b", .any), ("c", .complex none [("d", .struct "S")])]),
                ("z", .removed)] }

example : (upgrade v1Sample).core.globals.map (·.1) = ["a", "a.b", "a.c.d", "z"] := by decide +kernel
example : de (ser (upgrade v1Sample)) = .ok (upgrade v1Sample) := by decide +kernel

/-- a dotted child key collides with a nested path: the LIFO stack makes the *earlier* sibling
    (popped last) win -/
example : ((upgrade { globals := [("a", .complex none [("b", .complex none [("c", .any)]), ("b.c", .removed)])] }).core.globals)
    = [("a.b.c", { kind := .any })] := by decide +kernel

end Selene.Props.C17
