/-
C05 — standard-library call checking matches the library definition.
Model: `Selene/Std/Call.lean` (mirrors `visit_function_call` / `get_argument_type` /
`PassedArgumentType`), specification: `Selene/Std/CallSpec.lean` (written from docs/src/usage/std.md,
the property text and the Lua reference manual), helper lemmas: `Selene/Std/CallLemmas.lean`.

The property as worded is FALSE of the current code in two places; each theorem below is the
strongest statement that is true of the model, and next to it a concrete call (checked by
`decide`, and reproduced through the real lint by the correspondence run) shows that the
excluded case really is reported:

* `math.abs(1, f())`   — more syntactic arguments than parameters, last argument a call / `...`:
                          reported as a count problem (`Doc.overfullOpen`);
* `math.abs(-"1")`     — unary minus / `+ - * /` give the *operand's* type, so arithmetic on
                          string-typed operands is called a string (`Doc.tame` excludes it).

`Doc.tame` also excludes long-bracket literals, a clause the proofs make no use of (witness below).
-/
import Selene.Std.ProgCall
import Selene.Std.CallLemmas
namespace Selene.Props.C05
open Selene.Std Selene.Std.Doc

def hasCountProblem (ps : List Problem) : Bool := ps.any Problem.isCount
def hasStyleProblem (ps : List Problem) : Bool := ps.any Problem.isStyle

/-- `math.abs`: one required number -/
def absF : FunctionBehavior := { args := [{ type := .number }] }
/-- `collectgarbage`: optional constant list, optional number -/
def gcF : FunctionBehavior :=
  { args := [{ required := .notRequired, type := .constant ["collect", "count", "step"] },
             { required := .notRequired, type := .number }] }
/-- `math.max`: a number and a required `...` -/
def maxF : FunctionBehavior :=
  { args := [{ type := .number }, { required := .required (some "more than one"), type := .vararg }] }
def methodF : FunctionBehavior := { args := [{ type := .number }], method := true }

def callP (args : List Expr) : Call := { isMethod := false, args := .parens args }

/-- **C05 (style).** `.`/`:` misuse is reported exactly when the call style differs from the
definition. -/
theorem C05_style (f : FunctionBehavior) (c : Call) :
    hasStyleProblem (checkCall f c) = true ↔ f.method ≠ c.isMethod := by
  constructor
  · intro h hs
    obtain ⟨x, hx, hst⟩ := List.any_eq_true.mp h
    rcases List.mem_append.mp (checkCall_of_style hs ▸ hx) with hc | ht
    · have hcount : x.isCount = true := countProblems_isCount _ _ _ _ hc
      cases x <;> cases hst
      cases hcount
    · obtain ⟨_, _, _, rfl, -⟩ := mem_typeProblems.mp ht
      cases hst
  · intro hs
    rw [checkCall_of_style_ne hs]
    rfl

/-- a style problem is the only thing reported for such a call (the lint returns) -/
theorem C05_style_alone (f : FunctionBehavior) (c : Call) (h : f.method ≠ c.isMethod) :
    checkCall f c = [.style c.isMethod] :=
  checkCall_of_style_ne h

example : checkCall methodF (callP [.number "1"]) = [.style false] := by decide +kernel
example : hasStyleProblem (checkCall methodF { isMethod := true, args := .parens [.number "1"] }) = false := by
  decide +kernel

/-- **C05 (count), as true of the code.** With the right call style, a count problem ("requires
N parameters" or "requires use of the vararg") is reported iff the number of syntactic arguments
lies outside the documented range — or the call is `overfullOpen` (more arguments than
parameters with a trailing call / `...`), which the property says must NOT be reported. -/
theorem C05_count (f : FunctionBehavior) (c : Call) (hs : f.method = c.isMethod) :
    hasCountProblem (checkCall f c) = true ↔
      (countOutside f c = true ∨ overfullOpen f c = true) := by
  have htype : (typeProblems c.args.types f.args 0).any Problem.isCount = false :=
    List.any_eq_false.mpr fun x hx hc => by
      obtain ⟨_, _, _, rfl, -⟩ := mem_typeProblems.mp hx
      cases hc
  rw [hasCountProblem, checkCall_of_style hs, List.any_append, htype, Bool.or_false, any_isCount_countProblems]
  -- the right side is `countOutside f c || overfullOpen f c`, unfolded
  exact Bool.or_eq_true_iff

/-- **C05 (count), the property's wording**, for every call that is not `overfullOpen`. -/
theorem C05_count_exact (f : FunctionBehavior) (c : Call) (hs : f.method = c.isMethod)
    (hno : overfullOpen f c = false) :
    hasCountProblem (checkCall f c) = true ↔ countOutside f c = true := by
  rw [C05_count f c hs, hno]; simp

/-- in particular a call whose last argument is a call / `...` and that has no more arguments
than parameters is never a count problem -/
theorem C05_count_open (f : FunctionBehavior) (c : Call) (hs : f.method = c.isMethod)
    (ho : isOpen c.args = true) (hn : nArgs c.args ≤ f.args.length) :
    hasCountProblem (checkCall f c) = false := by
  rw [← Bool.not_eq_true, C05_count f c hs, countOutside, overfullOpen, ho]
  simp [Nat.not_lt.mpr hn]

-- non-vacuity: both directions occur, and the open case occurs
example : hasCountProblem (checkCall absF (callP [])) = true ∧ countOutside absF (callP []) = true := by decide +kernel
example : hasCountProblem (checkCall absF (callP [.number "1"])) = false := by decide +kernel
example : hasCountProblem (checkCall maxF (callP [.number "1"])) = true ∧ countOutside maxF (callP [.number "1"]) = true := by
  decide +kernel
example : isOpen (callP [.call]).args = true ∧ overfullOpen absF (callP [.call]) = false := by decide +kernel

/-- FINDING (count): the property's "iff" fails on the model — `math.abs(1, f())` is reported
although its last argument is a call.  The hypothesis of `C05_count_exact` is necessary. -/
example : ¬ ∀ (f : FunctionBehavior) (c : Call), f.method = c.isMethod →
    (hasCountProblem (checkCall f c) = true ↔ countOutside f c = true) := by
  intro h
  have := h absF (callP [.number "1", .call]) rfl
  revert this; decide

/-- **C05 (types), soundness.** If no argument contains a long-bracket string literal or
arithmetic on string-typed operands (`tameArgs`), every reported type problem is a definite
mismatch: nothing the argument can evaluate to is acceptable for the declared type (for a
constant-list parameter: a string literal whose content is not listed). -/
theorem C05_types (f : FunctionBehavior) (c : Call) (ht : tameArgs c.args = true)
    (i : Nat) (t : ArgType) (p : Passed) (h : Problem.type i t p ∈ checkCall f c) :
    definitelyWrong f c i = true := by
  obtain ⟨_, po, a, hk, ha, hf, _⟩ := type_mem_checkCall.mp h
  obtain ⟨rfl, hv, hnil, hm⟩ := argFlagged_some.mp hf
  obtain ⟨st, hst, hsound⟩ := types_statics c.args ht i p hk
  have hopt : ¬(isOptional a = true ∧ p = .prim .nil) := fun h => hnil ⟨of_decide_eq_true h.1, h.2⟩
  simp [definitelyWrong, hst, ha, not_fits hsound hv hopt hm]

-- non-vacuity: a tame call with a reported (and definite) mismatch; a constant-list mismatch
example : tameArgs (callP [.str .double "x"]).args = true ∧
    Problem.type 0 .number (.str "x") ∈ checkCall absF (callP [.str .double "x"]) := by decide +kernel
example : Problem.type 0 (.constant ["collect", "count", "step"]) (.str "whoops") ∈
    checkCall gcF (callP [.str .single "whoops"]) ∧
    definitelyWrong gcF (callP [.str .single "whoops"]) 0 = true := by decide +kernel
example : checkCall gcF (callP [.str .double "count"]) = [] := by decide +kernel

/-- **C05 (constant lists).** For a short-quoted string literal passed where a constant list is
declared, a type problem is reported exactly when the literal's content is not listed. -/
theorem C05_constant (f : FunctionBehavior) (c : Call) (hs : f.method = c.isMethod)
    (as : List Expr) (hc : c.args = .parens as) (i : Nat) (q : Quote) (s : String) (a : Argument)
    (cs : List String) (hq : q.isLong = false) (hi : as[i]? = some (.str q s))
    (ha : f.args[i]? = some a) (hcs : a.type = .constant cs) :
    (∃ p, Problem.type i (.constant cs) p ∈ checkCall f c) ↔ s ∉ cs := by
  have hty : c.args.types[i]? = some (some (.str s)) := by
    rw [hc, CallArgs.types, List.getElem?_map, hi]
    rfl
  constructor
  · rintro ⟨p, h⟩
    obtain ⟨_, po, a', hk, ha', hf, _⟩ := type_mem_checkCall.mp h
    rw [hty] at hk; rw [ha] at ha'
    cases hk; cases ha'
    obtain ⟨hpo, _, _, hm⟩ := argFlagged_some.mp hf
    cases hpo
    simpa [Passed.matches, hcs] using hm
  · intro hn
    have hf : argFlagged (some (.str s)) a = some (.str s) := by
      simp [argFlagged, hcs, Passed.matches, hn]
    exact ⟨.str s, type_mem_checkCall.mpr ⟨hs, _, a, hty, ha, hf, hcs⟩⟩

-- non-vacuity: the hypotheses are satisfiable and the right-hand side occurs
example : (∃ p, Problem.type 0 (.constant ["collect", "count", "step"]) p ∈
    checkCall gcF (callP [.str .double "whoops"])) := by
  exact (C05_constant gcF _ rfl _ rfl 0 .double "whoops" _ _ rfl rfl rfl rfl).mpr (by simp)
/-- long-bracket literals are compared by their contents (/repo `fix: long-bracket string literals are
compared by their contents`): `collectgarbage([[count]])` and `collectgarbage[[count]]` are accepted;
`from_string` applied to the token `[[count]]` would give `[count]` (next example). -/
example : checkCall gcF (callP [.str (.long 0) "count"]) = [] ∧
    checkCall gcF { isMethod := false, args := .string (.long 0) "count" } = [] := by decide +kernel
example : Passed.fromString (tokenText (.long 0) "count") = .str "[count]" := by decide +kernel

/-- FINDING (string arithmetic): `math.abs(-"1")` is reported as "expected number, received
string" although `-"1"` is the number -1 in Lua. -/
example : Problem.type 0 .number (.str "1") ∈ checkCall absF (callP [.unop .minus (.str .double "1")]) ∧
    definitelyWrong absF (callP [.unop .minus (.str .double "1")]) 0 = false := by decide +kernel

/-- **C05 (clean).** Outside the two recorded deviations (`overfullOpen`, non-`tame` arguments),
a call that satisfies the definition yields no diagnostic at all. -/
theorem C05_clean (f : FunctionBehavior) (c : Call) (ht : tameArgs c.args = true)
    (hno : overfullOpen f c = false) (h : satisfies f c) : checkCall f c = [] := by
  obtain ⟨hstyle, hcount, htypes⟩ := h
  have hs : f.method = c.isMethod := bne_eq_false_iff_eq.mp hstyle
  apply List.eq_nil_iff_forall_not_mem.mpr
  intro x hx
  rcases List.mem_append.mp (checkCall_of_style hs ▸ hx) with h1 | h1
  · have hc : hasCountProblem (checkCall f c) = true :=
      List.any_eq_true.mpr ⟨x, hx, countProblems_isCount _ _ _ _ h1⟩
    rw [(C05_count_exact f c hs hno).mp hc] at hcount
    cases hcount
  · obtain ⟨k, a, p, rfl, -⟩ := mem_typeProblems.mp h1
    have hw : definitelyWrong f c k = true := C05_types f c ht _ _ _ hx
    rw [htypes] at hw
    cases hw

/-- a field of kind `any` accepts every call; a non-function field is "not a function" -/
theorem C05_any (c : Call) : checkField .any c = [] := rfl

theorem C05_not_function (k : FieldKind) (c : Call) (h1 : k ≠ .any) (h2 : ∀ f, k ≠ .function f) :
    checkField k c = [.notFunction] := by
  cases k with
  | any => exact absurd rfl h1
  | function f => exact absurd rfl (h2 f)
  | _ => rfl

-- non-vacuity of C05_clean: satisfying calls exist (closed and open), and are reported clean
example : satisfies absF (callP [.number "1"]) :=
  ⟨by decide +kernel, by decide +kernel, fun
    | 0 => by decide
    | _ + 1 => rfl⟩
example : checkCall absF (callP [.number "1"]) = [] := by decide +kernel
example : checkCall absF (callP [.call]) = [] ∧ checkCall maxF (callP [.vararg]) = [] := by decide +kernel
example : checkField (.property .readOnly) (callP []) = [.notFunction] := by decide +kernel

/-! ## The same, at every call site of every program

`Std/Prog.lean` is the lint as it walks a whole syntax tree (which nodes it visits, the gate on the root
identifier, how the name path and the call suffix are read off, ranges); `LibCall` says that a call node is
a call of the library function `fb` — root not bound by the script, path resolved by the lookup of C06 —
with call shape `c`.  At such a site the lint's diagnostics are exactly `checkCall fb c`
(`Prog.stdCall_kinds`), so the theorems above hold there. -/

section
open Selene.Std.Prog Selene.Lua

theorem stdCall_problem_iff {l : SegLib} {R : Nat → Bool} {t : Tok} {ss : SuffixList} {path : List String}
    {fb : FunctionBehavior} {c : Call} (h : LibCall l R t ss path fb c) (sp : Span) (pr : Problem) :
    (∃ g ∈ stdCall l R (.mk sp (.name t) ss), g.kind = .call pr) ↔ pr ∈ checkCall fb c := by
  rw [← List.mem_map, stdCall_kinds l R sp t ss path fb c h, List.mem_map]
  constructor
  · rintro ⟨pr', hpr', e⟩
    cases e
    exact hpr'
  · exact fun hpr => ⟨pr, hpr, rfl⟩

theorem stdCall_any_iff {l : SegLib} {R : Nat → Bool} {t : Tok} {ss : SuffixList} {path : List String}
    {fb : FunctionBehavior} {c : Call} (h : LibCall l R t ss path fb c) (sp : Span) (q : Problem → Bool) :
    (∃ g ∈ stdCall l R (.mk sp (.name t) ss), ∃ pr, g.kind = .call pr ∧ q pr = true) ↔
      (checkCall fb c).any q = true := by
  rw [List.any_eq_true]
  constructor
  · rintro ⟨g, hg, pr, hk, hq⟩
    exact ⟨pr, (stdCall_problem_iff h sp pr).mp ⟨g, hg, hk⟩, hq⟩
  · rintro ⟨pr, hpr, hq⟩
    obtain ⟨g, hg, hk⟩ := (stdCall_problem_iff h sp pr).mpr hpr
    exact ⟨g, hg, pr, hk, hq⟩

/-- **C05 (count) at a call site.** In any program, at any call of a library function written in the
definition's call style, a count problem is reported iff the number of syntactic arguments lies outside the
documented range — or the call is over-full and open (the recorded finding). -/
theorem C05_prog_count (l : SegLib) (R : Nat → Bool) (sp : Span) (t : Tok) (ss : SuffixList) (path : List String)
    (fb : FunctionBehavior) (c : Call) (h : LibCall l R t ss path fb c) (hs : fb.method = c.isMethod) :
    (∃ g ∈ stdCall l R (.mk sp (.name t) ss), ∃ pr, g.kind = .call pr ∧ pr.isCount = true) ↔
      (countOutside fb c = true ∨ overfullOpen fb c = true) :=
  (stdCall_any_iff h sp Problem.isCount).trans (C05_count fb c hs)

/-- **C05 (style) at a call site.** `.`/`:` misuse is reported exactly when the call style differs from the
definition — and then it is the only thing reported. -/
theorem C05_prog_style (l : SegLib) (R : Nat → Bool) (sp : Span) (t : Tok) (ss : SuffixList) (path : List String)
    (fb : FunctionBehavior) (c : Call) (h : LibCall l R t ss path fb c) :
    (∃ g ∈ stdCall l R (.mk sp (.name t) ss), ∃ pr, g.kind = .call pr ∧ pr.isStyle = true) ↔ fb.method ≠ c.isMethod :=
  (stdCall_any_iff h sp Problem.isStyle).trans (C05_style fb c)

/-- **C05 (clean) at a call site.** In any program, a call of a library function that satisfies the definition
(outside the two recorded deviations) draws no diagnostic at all. -/
theorem C05_prog_clean (l : SegLib) (R : Nat → Bool) (sp : Span) (t : Tok) (ss : SuffixList) (path : List String)
    (fb : FunctionBehavior) (c : Call) (h : LibCall l R t ss path fb c) (ht : tameArgs c.args = true)
    (hno : overfullOpen fb c = false) (hsat : satisfies fb c) : stdCall l R (.mk sp (.name t) ss) = [] := by
  have hk := stdCall_kinds l R sp t ss path fb c h
  rw [C05_clean fb c ht hno hsat] at hk
  exact List.map_eq_nil_iff.mp hk

/-- **C05 (types) at a call site.** Every type problem reported at a call of a library function whose arguments
are `tame` is a definite mismatch. -/
theorem C05_prog_types (l : SegLib) (R : Nat → Bool) (sp : Span) (t : Tok) (ss : SuffixList) (path : List String)
    (fb : FunctionBehavior) (c : Call) (h : LibCall l R t ss path fb c) (ht : tameArgs c.args = true)
    (g : PDiag) (hg : g ∈ stdCall l R (.mk sp (.name t) ss)) (i : Nat) (ty : ArgType) (p : Passed)
    (hk : g.kind = .call (.type i ty p)) : definitelyWrong fb c i = true :=
  C05_types fb c ht i ty p ((stdCall_problem_iff h sp _).mp ⟨g, hg, hk⟩)

open Selene.Std.Prog Selene.Lua in
/-- non-vacuity: `math.floor()` as a statement of a program — a `LibCall`, reported "requires 1 parameters, 0 passed" -/
example :
    let lib : SegLib := { globals := [(["math", "floor"], { kind := .function { args := [{ type := .number }] } })], structs := [] }
    let ss : SuffixList := .cons (.dot ⟨1, 2⟩ ⟨2, "floor"⟩) (.cons (.args ⟨3, 4⟩ (.parens ⟨3, 4⟩ .nil)) .nil)
    LibCall lib (fun _ => false) ⟨0, "math"⟩ ss ["math", "floor"] { args := [{ type := .number }] } { isMethod := false, args := .parens [] } ∧
    (stdCall lib (fun _ => false) (.mk ⟨0, 4⟩ (.name ⟨0, "math"⟩) ss)).map (·.message.1) =
      ["standard library function `math.floor` requires 1 parameters, 0 passed"] := by
  intro lib ss
  refine ⟨⟨rfl, by decide +kernel, ⟨none, by decide +kernel⟩, ⟨.args ⟨3, 4⟩ (.parens ⟨3, 4⟩ .nil), rfl, rfl⟩⟩, by decide +kernel⟩

end

end Selene.Props.C05
