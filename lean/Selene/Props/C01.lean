/-
C01 — undefined_variable agrees with Lua's lexical scoping rules.

Full statement (DESIGN §4 C01): for every chunk `c` and every identifier occurrence `o` in an
expression position, the declaration the scope tables record for `o` is the one Lua's scoping
rules give (`Spec.resolve`), hence the lint reports exactly the unbound, non-library, never
assigned names.

Proved here:
* `C01_log`, `C01_resolution` (all chunks, no hypothesis): the scope-stack machine of `Scope/Core.lean` — `...`
  barriers, hoisting with its rewrite of earlier unresolved reads, eager reads before closures are entered, the
  if/elseif scope juggling, deferred loop variables — answers, as a multiset, what `Spec.resolve` (Lua 5.1 §2.6,
  environment passing, source order) answers.  `Core` is compared with the real `ScopeManager` on every program of
  the correspondence run (every recorded read with its binding).
* `C01_sound`, `C01_complete`, `C01_once_tree`: the lint over the machine's log (`Core.undefinedReports`).
* `C01_lint_sound`, `C01_once`: what `undefined_variable` reports given the scope tables, for all
  tables (over the full ScopeVisitor model of `Scope/Model.lean`, compared table-by-table with the
  implementation on every run).
NOT a Lean theorem: that the full model's tables and `Core`'s reference log coincide (both are tied
to the implementation by the correspondence run, not to each other by proof).
-/
import Selene.Scope.Coherent
import Selene.Scope.Lints
import Selene.Scope.Spec
import Selene.Scope.CoreProof
import Selene.Scope.SpecProof
import Selene.Scope.TopProof
namespace Selene.Props.C01
open Selene.Scope Selene.Lua

/-- `C01_resolution`, `C03_shadows` and the lists of C02 are projections of this -/
theorem C01_log [Core.NameFilter] (b : Block) :
    (Core.analyse b).log.Perm (SpecProof.log (Spec.resolve b)) := by
  rw [CoreProof.analyse_eq b]
  exact (SpecProof.resolve_perm b).symm

/-- **C01 (resolution).** For every chunk, the reads recorded by the scope-stack machine, each with
the local declaration it resolves to (hoisted globals and blocked `...` counting as none), are
exactly — as a multiset — the identifier occurrences in expression positions that Lua's scoping rules
give, each with the declaration visible there. -/
theorem C01_resolution [Core.NameFilter] (b : Block) :
    (Core.analyse b).answers.Perm (SpecProof.reads (Spec.resolve b)) := by
  rw [← CoreProof.log_answers, ← SpecProof.log_reads]
  exact (C01_log b).filterMap _

theorem C01_resolution_mem [Core.NameFilter] (b : Block) (t : Nat) (d : Option Nat) :
    (t, d) ∈ (Core.analyse b).answers ↔
      ∃ oc ∈ (Spec.resolve b).occs, SpecProof.counted oc = true ∧ Core.NameFilter.read oc.name = true ∧
        oc.tok = t ∧ oc.binding.map (·.1) = d := by
  rw [(C01_resolution b).mem_iff]
  simp only [SpecProof.reads, List.mem_map, List.mem_filter, Prod.mk.injEq, Bool.and_eq_true, and_assoc]

/-- `local x = 1; local function f(...) local x = x; g = x; return ..., g, y end` — shadowing, the
    initialiser seeing the outer `x`, a hoisted global, a vararg, an unbound name -/
def witness : Block :=
  let t (i : Nat) (s : String) : Tok := ⟨i, s⟩
  .mk none
    (.cons (.localAssign ⟨0, 3⟩ [t 1 "x"] (.cons (.num (t 3 "1")) .nil))
      (.cons (.localFunc ⟨4, 30⟩ (t 6 "f")
        (.mk ⟨7, 30⟩ [.dots (t 8 "...")]
          (.mk none
            (.cons (.localAssign ⟨10, 13⟩ [t 11 "x"] (.cons (.var (.name (t 13 "x"))) .nil))
              (.cons (.assign ⟨14, 16⟩ (.cons (.name (t 14 "g")) .nil) (.cons (.var (.name (t 16 "x"))) .nil)) .nil))
            (.ret ⟨17, 22⟩ (.cons (.dots (t 18 "...")) (.cons (.var (.name (t 20 "g"))) (.cons (.var (.name (t 22 "y"))) .nil)))))))
        .nil))
    .none

example : @Core.St.answers Core.NameFilter.all (Core.analyse witness) = [(13, some 1), (16, some 11), (18, some 8), (20, none), (22, none)] := by decide +kernel
example : @Core.St.shadows Core.NameFilter.all (Core.analyse witness) = [(1, none), (6, none), (11, some 1)] := by decide +kernel

export Selene.Scope.Core (undefinedReports)

/-- the filter that looks at one name only -/
@[reducible] def oneName (n : String) : Core.NameFilter :=
  { keep := fun _ => false, read := fun m => m == n, assign := fun m => m == n }

theorem oneName_read (n m : String) : @Core.NameFilter.read (oneName n) m = (m == n) := rfl
theorem oneName_assign (n m : String) : @Core.NameFilter.assign (oneName n) m = (m == n) := rfl

/-- `C01_resolution_mem` under the filter `oneName n`, which makes it speak about names -/
theorem read_iff_occ (b : Block) (n : String) (t : Nat) (d : Option Nat) :
    (∃ r ∈ (Core.analyse b).refs, r.counted = true ∧ r.decl = false ∧ r.write = false ∧ r.name = n ∧
        r.tok = t ∧ Core.localBinding r = d) ↔
      ∃ oc ∈ (Spec.resolve b).occs, SpecProof.counted oc = true ∧ oc.name = n ∧ oc.tok = t ∧
        oc.binding.map (·.1) = d := by
  -- no instance of `NameFilter` is declared anywhere: a proof that wants a particular filter names it with `letI` or `@`
  letI := oneName n
  constructor
  · rintro ⟨r, hr, hc, hd, hw, rfl, h⟩
    obtain ⟨oc, ho, h1, h2, h3⟩ := (C01_resolution_mem b t d).mp ((CoreProof.mem_answers _ t d).mpr
      ⟨r, hr, hc, (CoreProof.kept_of_read hd hw).trans (beq_self_eq_true _), hd, hw, h⟩)
    exact ⟨oc, ho, h1, eq_of_beq h2, h3⟩
  · rintro ⟨oc, ho, h1, rfl, h3⟩
    obtain ⟨r, hr, hc, hk, hd, hw, h⟩ := (CoreProof.mem_answers _ t d).mp
      ((C01_resolution_mem b t d).mpr ⟨oc, ho, h1, beq_self_eq_true _, h3⟩)
    exact ⟨r, hr, hc, hd, hw, eq_of_beq ((CoreProof.kept_of_read hd hw).symm.trans hk), h⟩

/-- **C01 (never reported when bound, supplied or assigned).** For every chunk and every library: a
reported token is an identifier occurrence in an expression position that Lua's scoping rules bind to no
local, parameter, loop variable or implicit `self`; its name is not supplied by the standard library; it
is not `...` of the main chunk; and it is not a global the file assigns (or defines with `function
name`) in its outermost block. -/
theorem C01_sound (hasFields : String → Bool) (b : Block) (t : Nat)
    (h : t ∈ undefinedReports hasFields (Core.analyse b)) :
    ∃ oc ∈ (Spec.resolve b).occs, oc.tok = t ∧ oc.kind ≠ .target ∧ oc.binding = none ∧
      hasFields oc.name = false ∧ ¬ (oc.name = "..." ∧ oc.inFunction = false) ∧
      oc.name ∉ TopProof.topGlobals b := by
  letI := Core.NameFilter.all
  obtain ⟨r, hr, hd, hw, hres, hs, ht⟩ := (CoreProof.mem_undefinedReports ..).mp h
  have i := TopProof.analyse_inv b
  -- an unresolved read stands in an expression position (`function f` resolves its read of `f`), so it counts
  have hcount : r.counted = true := by
    rw [(i.shape r hr).1 hd hw]
    cases he : r.expr with
    | true => rfl
    | false => exact absurd hres (i.uok r hr hd hw he)
  obtain ⟨oc, hoc, hc, hname, htok, hbind⟩ :=
    (read_iff_occ b r.name t none).mp ⟨r, hr, hcount, hd, hw, rfl, ht, by simp [Core.localBinding, hres]⟩
  have hc' : oc.kind ≠ .target ∧ ¬ (oc.name = "..." ∧ oc.inFunction = false) := by
    simpa [SpecProof.counted, Decidable.imp_iff_not_or] using hc
  refine ⟨oc, hoc, htok, hc'.1, by simpa using hbind, hname ▸ hs, hc'.2, fun htop => ?_⟩
  exact (TopProof.analyse_good b r.name (hname ▸ htop)).2 r hr rfl hd hw hres

/-- **C01 (always reported otherwise).** For every chunk and every library: an identifier occurrence in
an expression position that Lua's scoping rules bind to nothing, whose name the standard library does
not supply and that no statement of the file assigns as a global (no plain-name target or `function
name` with that name where it denotes no local), is reported at that token. -/
theorem C01_complete (hasFields : String → Bool) (b : Block) (oc : Spec.Occ)
    (hoc : oc ∈ (Spec.resolve b).occs) (hc : SpecProof.counted oc = true) (hb : oc.binding = none)
    (hs : hasFields oc.name = false)
    (hna : ∀ oc' ∈ (Spec.resolve b).occs, SpecProof.assignsGlobal oc' = true → oc'.name ≠ oc.name) :
    oc.tok ∈ undefinedReports hasFields (Core.analyse b) := by
  have i := @TopProof.analyse_inv Core.NameFilter.all b
  -- a plain-name write of this name that met no local would be a global assignment, which the resolver lists too
  have hlw : Safe.LocalWrites oc.name (Core.analyse b).refs := by
    intro w hw hww hwn
    letI := oneName oc.name
    cases hl : Core.localOf w.resolved with
    | some _ => rfl
    | none =>
      obtain ⟨hwd, hwc⟩ := (i.shape w hw).2 hww
      have hmem : w.tok ∈ (Core.analyse b).globalAssigns := (CoreProof.mem_globalAssigns _ _).mpr
        ⟨w, hw, by rw [hwc, hl]; rfl, (CoreProof.kept_of_write hwd hww).trans (beq_of_eq hwn), hwd, hww, rfl⟩
      rw [← CoreProof.log_globalAssigns, ((C01_log b).filterMap _).mem_iff, SpecProof.log_globalAssigns,
        SpecProof.mem_globalAssigns] at hmem
      obtain ⟨x, hx, ha, hk, _⟩ := hmem
      exact absurd (eq_of_beq hk) (hna x hx ha)
  obtain ⟨r, hr, _, hd, hw, hname, htok, hlb⟩ :=
    (read_iff_occ b oc.name oc.tok none).mpr ⟨oc, hoc, hc, rfl, rfl, by simp [hb]⟩
  refine (CoreProof.mem_undefinedReports ..).mpr ⟨r, hr, hd, hw, ?_, hname ▸ hs, htok⟩
  match hr' : r.resolved with
  | none => rfl
  | some (d, true) => exact absurd hr' ((i.noh oc.name hlw).2 r hr hname d)
  | some (d, false) => simp [Core.localBinding, hr'] at hlb

/-- non-vacuity, on `witness`: the read of `y` (token 22, never assigned) is reported; the read of `g`
    (token 20) is not — `g` is assigned inside the function, so the machine hoists it -/
example : undefinedReports (fun _ => false) (Core.analyse witness) = [22] := by decide +kernel

/-! ### the lint over the scope tables of the full model: from here on `St` and `Ref` are those of `Scope/Model.lean`,
not the machine's `Core.St` and `Core.Ref` -/

theorem fold_inv (hasFields : String → Bool) (σ : St) {Q : Diag → Prop}
    (hQ : ∀ r ∈ σ.refs.toList, r.read = true → r.resolved = none → hasFields r.name = false →
      ¬ (r.scopeId = 0 ∧ r.name = "...") →
      Q { code := "undefined_variable", primary := ⟨r.ident, r.ident⟩, detail := r.name }) :
    ((undefinedVariable hasFields σ).map (·.primary.first)).Nodup ∧ ∀ d ∈ undefinedVariable hasFields σ, Q d := by
  let P (acc : List Nat × List Diag) : Prop :=
    acc.1.Nodup ∧ acc.2.map (·.primary.first) = acc.1.reverse ∧ ∀ d ∈ acc.2, Q d
  -- `_`: `undefinedVariable`'s own step
  suffices inv : P (σ.refs.toList.foldl _ ([], [])) from
    ⟨inv.2.1 ▸ List.pairwise_reverse.mpr (inv.1.imp Ne.symm), inv.2.2⟩
  refine List.foldlRecOn (motive := P) σ.refs.toList _ ⟨List.nodup_nil, rfl, List.forall_mem_nil _⟩
    fun acc h r hr => iteInduction (motive := P) (fun hc => ?_) fun _ => h
  obtain ⟨hn, he, hq⟩ := h
  simp only [Bool.and_eq_true, Bool.not_eq_true', Option.isNone_iff_eq_none, decide_eq_true_eq,
    Bool.and_eq_false_imp, List.contains_eq_mem, decide_eq_false_iff_not] at hc
  obtain ⟨⟨⟨⟨hres, hread⟩, hnew⟩, hdots⟩, hlib⟩ := hc
  refine ⟨List.nodup_cons.mpr ⟨hnew, hn⟩, by simp [he], fun d hd => ?_⟩
  rcases List.mem_append.mp hd with hd | hd
  · exact hq d hd
  · exact List.mem_singleton.mp hd ▸ hQ r hr hread hres hlib fun h => hdots h.1 h.2

/-- **C01 (lint soundness over the tables).** Every `undefined_variable` diagnostic sits exactly on
an identifier that the scope tables record as a *read* with *no* resolved variable, whose name is
not a standard-library global and that is not a main-chunk-level `...`. -/
theorem C01_lint_sound (hasFields : String → Bool) (σ : St) (d : Diag)
    (h : d ∈ undefinedVariable hasFields σ) :
    ∃ r ∈ σ.refs.toList, r.read = true ∧ r.resolved = none ∧ hasFields r.name = false ∧
      ¬ (r.scopeId = 0 ∧ r.name = "...") ∧ d.primary = ⟨r.ident, r.ident⟩ ∧ d.code = "undefined_variable" := by
  revert d
  exact (fold_inv hasFields σ fun r hr h1 h2 h3 h4 => ⟨r, hr, h1, h2, h3, h4, rfl, rfl⟩).2

/-- **C01 (at most once).** No identifier is reported twice. -/
theorem C01_once (hasFields : String → Bool) (σ : St) :
    ((undefinedVariable hasFields σ).map (·.primary.first)).Nodup :=
  (fold_inv hasFields σ (Q := fun _ => True) fun _ _ _ _ _ _ => trivial).1

/-- **C01 (exactly once, for the machine).** For every chunk whose reference tokens carry pairwise distinct indices
(positions in source order): `undefined_variable` over the machine's log reports no token twice.  With `C01_complete`,
the unbound, never-assigned name is reported exactly once. -/
theorem C01_once_tree (hasFields : String → Bool) (b : Selene.Lua.Block) (h : (Core.refTokens b).Nodup) :
    (Core.undefinedReports hasFields (Core.analyse b)).Nodup :=
  Core.undefinedReports_nodup hasFields b h

end Selene.Props.C01
