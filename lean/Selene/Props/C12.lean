/-
C12 — checking a file is a deterministic pure function of (config, library, source).

A Lean function is deterministic by construction; what can break this in the Rust is hidden state
and hash iteration order.  Both are modelled so that they *could* break the theorem:
* the lazily initialised global tree (`OnceCell<GlobalTreeCache>`) is an explicit state threaded
  through every lookup;
* the one place where a hash map is *iterated* and reaches the output
  (`possible_standard_libraries`, sorted afterwards) takes the iteration order as an input.
Hash *lookups* elsewhere are finite-map lookups (order-free); that no other hash iteration reaches a
diagnostic is a source audit run by the check.  Thread interleavings at the memory level are Rust's
`Sync` guarantee, not modelled.
-/
import Selene.Std.Trie
namespace Selene.Props.C12
open Selene.Std

/-! ### the lazily built tree never changes an answer -/

/-- `find_global` against an explicit tree (what `global_tree_cache()` returned) -/
def findGlobalWith (tree : Children) (l : SegLib) (names : Path) : Lookup :=
  match names with
  | [] => .panic "assert!(!names.is_empty())"
  | _ =>
    match l.globals.get names with
    | some f => .found f
    | none => walkTree l.structs l.globals tree names

/-- checker state: the `OnceCell` -/
abbrev Cache := Option Children

/-- one lookup through the cell: initialise on first use, reuse afterwards -/
def stepLookup (l : SegLib) (st : Cache) (names : Path) : Cache × Lookup :=
  let tree := match st with
    | some t => t
    | none => extractIntoTree l.globals
  (some tree, findGlobalWith tree l names)

def Inv (l : SegLib) (st : Cache) : Prop := st = none ∨ st = some (extractIntoTree l.globals)

theorem findGlobalWith_built (l : SegLib) (names : Path) :
    findGlobalWith (extractIntoTree l.globals) l names = findGlobal l names := by
  unfold findGlobalWith findGlobal; rfl

theorem step_inv (l : SegLib) (st : Cache) (names : Path) (h : Inv l st) :
    Inv l (stepLookup l st names).1 ∧ (stepLookup l st names).2 = findGlobal l names := by
  rcases h with rfl | rfl
  · exact ⟨Or.inr rfl, findGlobalWith_built l names⟩
  · exact ⟨Or.inr rfl, findGlobalWith_built l names⟩

/-- run a whole history of lookups through one shared checker -/
def runHistory (l : SegLib) : Cache → List Path → Cache × List Lookup
  | st, [] => (st, [])
  | st, q :: rest =>
    let (st', r) := stepLookup l st q
    let (st'', rs) := runHistory l st' rest
    (st'', r :: rs)

/-- **C12 (history).** Whatever was looked up before through the same checker instance, every
lookup answers exactly as a fresh, stateless lookup: the shared cache is unobservable. -/
theorem C12_history (l : SegLib) (hist : List Path) (st : Cache) (h : Inv l st) :
    (runHistory l st hist).2 = hist.map (findGlobal l) ∧ Inv l (runHistory l st hist).1 := by
  induction hist generalizing st with
  | nil => exact ⟨rfl, h⟩
  | cons q rest ih =>
    obtain ⟨hinv, hres⟩ := step_inv l st q h
    obtain ⟨ih1, ih2⟩ := ih (stepLookup l st q).1 hinv
    simp only [runHistory, List.map_cons]
    exact ⟨by rw [ih1, hres], ih2⟩

/-- two histories that contain the same query answer it identically, wherever it occurs -/
theorem C12_order_independent (l : SegLib) (h₁ h₂ : List Path) (q : Path) (i j : Nat)
    (hi : h₁[i]? = some q) (hj : h₂[j]? = some q) :
    (runHistory l none h₁).2[i]? = (runHistory l none h₂).2[j]? := by
  rw [(C12_history l h₁ none (Or.inl rfl)).1, (C12_history l h₂ none (Or.inl rfl)).1,
    List.getElem?_map, List.getElem?_map, hi, hj]

/-! ### the only hash iteration that reaches a diagnostic is sorted -/

/-- `possible_standard_libraries`: iterate the map of built-in libraries in *some* order, keep the
names (here: their ranks in a fixed enumeration) that define the path, sort -/
def possibleStd (iterationOrder : List (Nat × Bool)) : List Nat :=
  ((iterationOrder.filter (·.2)).map (·.1)).mergeSort (fun a b => decide (a ≤ b))

/-- **C12 (hash order).** The note listing the libraries that define a name does not depend on the
order in which the hash map of built-in libraries is iterated. -/
theorem C12_hash_order (o₁ o₂ : List (Nat × Bool)) (h : o₁.Perm o₂) : possibleStd o₁ = possibleStd o₂ := by
  have sorted (l : List Nat) : (l.mergeSort fun a b => decide (a ≤ b)).Pairwise (· ≤ ·) :=
    (List.pairwise_mergeSort (le := fun a b => decide (a ≤ b))
      (fun _ _ _ h1 h2 => decide_eq_true (Nat.le_trans (of_decide_eq_true h1) (of_decide_eq_true h2)))
      (fun a b => by simpa using Nat.le_total a b) l).imp of_decide_eq_true
  refine List.Perm.eq_of_pairwise (fun _ _ _ _ => Nat.le_antisymm) (sorted _) (sorted _) ?_
  exact ((List.mergeSort_perm _ _).trans ((h.filter _).map _)).trans (List.mergeSort_perm _ _).symm

private def lib : SegLib := { globals := [(["a", "b"], { kind := .any }), (["c"], { kind := .property .readOnly })], structs := [] }
example : (runHistory lib none [["a", "b", "z"], ["c"], ["a", "b", "z"]]).2 =
    [.found { kind := .any }, .found { kind := .property .readOnly }, .found { kind := .any }] := by decide +kernel
example : possibleStd [(3, true), (1, true), (2, false)] = possibleStd [(2, false), (1, true), (3, true)] :=
  C12_hash_order _ _ (by decide)

end Selene.Props.C12
