/-
C19 — exit status is zero exactly when nothing was reported.
-/
import Selene.Cli.Exit
namespace Selene.Props.C19
open Selene.Cli

/-- **C19 (exit).** Exit status 0 iff no error, parse error, missing/unreadable file (counted as
errors), library error or crashed worker — and no warning unless `--allow-warnings`. -/
theorem C19_exit (c : Counts) (std panics : Nat) (aw : Bool) :
    exitCode c std panics aw = 0 ↔
      (c.errors = 0 ∧ c.parse = 0 ∧ std = 0 ∧ panics = 0) ∧ (c.warnings = 0 ∨ aw = true) := by
  have hsum : c.parse + c.errors + c.warnings + std + panics = c.errors + c.parse + std + panics + c.warnings := by
    simp +arith only
  have hzero : c.errors + c.parse + std + panics = 0 ↔ c.errors = 0 ∧ c.parse = 0 ∧ std = 0 ∧ panics = 0 := by
    simp only [Nat.add_eq_zero_iff, and_assoc]
  unfold exitCode
  rw [hsum, ← hzero]
  generalize c.errors + c.parse + std + panics = e
  -- the total is the warnings alone exactly when nothing else was counted
  have hne : e + c.warnings ≠ c.warnings ↔ e ≠ 0 := not_congr Nat.add_eq_right
  simp only [hne]
  cases aw <;> simp <;> omega

theorem exit_le_one (c : Counts) (std panics : Nat) (aw : Bool) : exitCode c std panics aw ≤ 1 := by
  unfold exitCode
  simp only
  split
  · split <;> decide
  · decide

theorem total_proj (π : Counts → Nat) (hπ : ∀ a b, π (a.add b) = π a + π b) (h0 : π {} = 0) (fs : List FileOutcome) :
    π (total fs) = (fs.map fun f => π f.counts).sum := by
  rw [List.sum_eq_foldl_nat, List.foldl_map, ← h0]
  exact (List.foldl_hom π fun a f => (hπ a f.counts).symm).symm

def isFailedToOpen : FileOutcome → Bool
  | .missing => true
  | .unreadable => true
  | _ => false

theorem countSev_printed (s : Sev) (hs : s ≠ .allow) (sevs : List Sev) :
    countSev s (sevs.filter (· ≠ .allow)) = countSev s sevs := by
  unfold countSev
  rw [List.filter_filter]
  refine congrArg _ (List.filter_congr fun x _ => ?_)
  have himp : decide (x = s) = true → decide (x ≠ .allow) = true :=
    fun hx => decide_eq_true (of_decide_eq_true hx ▸ hs)
  exact Bool.and_eq_left_iff_imp.mpr himp

theorem counts_eq_printed (f : FileOutcome) :
    f.counts.errors = countSev .error f.printed + (if isFailedToOpen f then 1 else 0) ∧
    f.counts.warnings = countSev .warning f.printed ∧
    f.counts.parse = (match f with | .parseErrors n => n | _ => 0) := by
  cases f with
  | linted sevs =>
    exact ⟨(countSev_printed _ (by decide) _).symm, (countSev_printed _ (by decide) _).symm, rfl⟩
  | _ => exact ⟨rfl, rfl, rfl⟩

/-- **C19 (totals).** The printed totals equal the number of diagnostics printed with each
severity, plus one error per file that could not be opened / read; parse errors are the sum of
the per-file parse errors. -/
theorem C19_totals (fs : List FileOutcome) :
    (total fs).errors = (fs.map fun f => countSev .error f.printed + (if isFailedToOpen f then 1 else 0)).sum ∧
    (total fs).warnings = (fs.map fun f => countSev .warning f.printed).sum ∧
    (total fs).parse = (fs.map fun f => match f with | .parseErrors n => n | _ => 0).sum := by
  refine ⟨?_, ?_, ?_⟩
  · rw [total_proj (·.errors) (fun _ _ => rfl) rfl, funext fun f => (counts_eq_printed f).1]
  · rw [total_proj (·.warnings) (fun _ _ => rfl) rfl, funext fun f => (counts_eq_printed f).2.1]
  · rw [total_proj (·.parse) (fun _ _ => rfl) rfl, funext fun f => (counts_eq_printed f).2.2]

/-- a lint set to `allow` (all of its diagnostics carry `allow`) changes neither counts nor exit -/
theorem C19_allow_silent (sevs : List Sev) :
    (FileOutcome.linted sevs).counts = (FileOutcome.linted (sevs.filter (· ≠ .allow))).counts := by
  simp only [FileOutcome.counts]
  rw [countSev_printed _ (by decide), countSev_printed _ (by decide)]

/-- **C19 (exclude).** Files matched by `exclude` are not checked unless `--no-exclude`; files that
are not matched are always checked. -/
theorem C19_exclude (listed : List File) (noExclude : Bool) (f : File) (hf : f ∈ listed)
    (hm : f.outcome ≠ .missing) :
    f ∈ checked listed noExclude ↔ (noExclude = true ∨ f.excludedByPattern = false) := by
  unfold checked
  simp only [List.mem_filter, hf, true_and]
  cases ho : f.outcome with
  | missing => exact absurd ho hm
  | _ => simp

theorem C19_no_exclude_checks_all (listed : List File) : checked listed true = listed := by
  unfold checked
  apply List.filter_eq_self.mpr
  intro f _; cases f.outcome <;> simp

example : exitCode { warnings := 2 } 0 0 true = 0 := by decide +kernel
example : exitCode { warnings := 2 } 0 0 false = 1 := by decide +kernel
example : exitCode { warnings := 2 } 0 1 true = 1 := by decide +kernel   -- a crashed worker is never excused
example : exitCode { warnings := 2, errors := 1 } 0 0 true = 1 := by decide +kernel
example : (runCli [{ path := "a", excludedByPattern := true, outcome := .linted [.error] },
                   { path := "b", excludedByPattern := false, outcome := .linted [.warning, .allow] }]
            { allowWarnings := true }).exit = 0 := by decide +kernel

end Selene.Props.C19
