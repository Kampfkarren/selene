/-
C06 — standard-library name lookup follows the documented resolution rules.
Specification and refinement proof: Selene/Std/FindSpec.lean; the tables by which reads and assignment targets
are judged: Selene/Std/Access.lean.
-/
import Selene.Std.ProgCall
import Selene.Std.FindSpec
import Selene.Std.Access
namespace Selene.Props.C06
open Selene.Std

/-- keys come from `split('.')`, which never returns an empty list -/
def WF (l : SegLib) : Prop := KeysNonempty l.globals ∧ ∀ kv ∈ l.structs, KeysNonempty kv.2

/-- **C06 (lookup).** For every library and every query path, the tree-based `find_global`
returns exactly what the documented resolution rules (explicit entry; otherwise segment walk with
explicit-before-`*`, struct switch, `any` short-circuit, implicit read-only prefixes) prescribe. -/
theorem C06_find (l : SegLib) (h : WF l) (names : Path) : findGlobal l names = Doc.lookup l names := by
  unfold findGlobal Doc.lookup
  cases names with
  | nil => rfl
  | cons n rest =>
    simp only
    cases l.globals.get (n :: rest) with
    | some f => rfl
    | none => exact walkTree_eq l.structs h.2 (n :: rest) l.globals [] _ (Sub.root _) h.1

/-- `global_has_fields` holds exactly when some defined key starts with that root segment -/
theorem C06_has_fields (l : SegLib) (h : WF l) (n : String) :
    globalHasFields l n = hasPrefix l.globals [n] :=
  (getKV_of_sub l.globals [] (extractIntoTree l.globals) n (Sub.root _) h.1).1

/-- a root that has fields is always found (so the `assert!(!name_path.is_empty())` in
`lint_invalid_field_access` is unreachable: a one-segment path never gets there) -/
theorem C06_has_fields_find (l : SegLib) (h : WF l) (n : String) (hf : globalHasFields l n = true) :
    ∃ f, findGlobal l [n] = .found f := by
  rw [C06_find l h]
  rw [C06_has_fields l h] at hf
  unfold Doc.lookup
  cases l.globals.get [n] with
  | some f => exact ⟨f, rfl⟩
  | none => exact ⟨Doc.fieldAtPath l.globals [n], by simp only [Doc.walk, Doc.choose, List.nil_append, hf, if_true]⟩

def structRefOk (structs : List (String × SegMap)) (f : Field) : Bool :=
  match f.kind with
  | .struct s => (getKV structs s).isSome
  | _ => true

/-- every `struct:` field names a defined struct -/
def structsClosed (l : SegLib) : Prop :=
  (∀ kf ∈ l.globals, structRefOk l.structs kf.2 = true) ∧
  (∀ kv ∈ l.structs, ∀ kf ∈ kv.2, structRefOk l.structs kf.2 = true)

instance (l : SegLib) : Decidable (structsClosed l) := by unfold structsClosed; infer_instance
instance (m : SegMap) : Decidable (KeysNonempty m) := by unfold KeysNonempty; infer_instance
instance (l : SegLib) : Decidable (WF l) := by unfold WF; infer_instance

theorem walk_never_panics (structs : List (String × SegMap)) (names : Path) (m : SegMap) (p : Path)
    (why : String) : Doc.walk structs m p names ≠ .panic why := by
  -- only the two recursive clauses (7: into a struct, 8: deeper into the same map) can hand on a panic
  fun_induction Doc.walk structs m p names with
  | case1 | case2 | case3 | case4 | case5 | case6 => nofun
  | case7 | case8 => assumption

/-- **no panic, unconditionally** (`self.structs.get(struct_name)?`: an undefined struct leads nowhere):
lookup of a non-empty path never panics, for every library — in particular one that names a missing
struct, which loads without error. -/
theorem C06_find_total (l : SegLib) (h : WF l) (names : Path) (hn : names ≠ []) :
    ∀ why, findGlobal l names ≠ .panic why := by
  intro why
  rw [C06_find l h]
  unfold Doc.lookup
  cases names with
  | nil => exact absurd rfl hn
  | cons n rest =>
    simp only
    cases l.globals.get (n :: rest) with
    | some f => simp
    | none => exact walk_never_panics l.structs (n :: rest) l.globals [] why

/-- **no panic** when every `struct:` reference is defined (neither `struct … not found` nor
`couldn't find … inside names_to_fields`); `C06_find_total` does without that hypothesis. -/
theorem C06_find_no_panic (l : SegLib) (h : WF l) (hc : structsClosed l) (names : Path)
    (hn : names ≠ []) : ∀ why, findGlobal l names ≠ .panic why :=
  have _ := hc
  C06_find_total l h names hn

/-- **C06 (positional).** Every target of a multiple assignment is judged independently of its
position: the problems of a target list are the concatenation of each target's own problems. -/
theorem C06_positional_one (l : SegLib) (targets : List Target) (i : Nat) (pr : AccessProblem) :
    (i, pr) ∈ assignmentProblems l targets ↔ ∃ t, targets[i]? = some t ∧ pr ∈ targetProblems l t := by
  constructor
  · intro h
    obtain ⟨⟨t, j⟩, hj, hm⟩ := List.mem_flatMap.mp h
    obtain ⟨_, hpr, heq⟩ := List.mem_map.mp hm
    cases heq
    exact ⟨t, List.mem_zipIdx_iff_getElem?.mp hj, hpr⟩
  · rintro ⟨t, ht, hpr⟩
    exact List.mem_flatMap.mpr ⟨(t, i), List.mem_zipIdx_iff_getElem?.mpr ht, List.mem_map.mpr ⟨pr, hpr, rfl⟩⟩

/-- a write to an existing entry is reported exactly when its documented writability forbids
overriding it (read-only / new-fields properties, functions, structs) -/
theorem C06_write_existing (l : SegLib) (p : Path) (f : Field) (hf : findGlobal l p = .found f) :
    targetProblems l (.path p false) = if assignable f then [] else [.notWritable] := by
  simp [targetProblems, hf]

theorem C06_write_documented (w : Writability) :
    assignable { kind := .property w } = (w = .overrideFields ∨ w = .fullWrite) := by
  cases w <;> simp [assignable]

theorem invalidFieldAccess_cons (l : SegLib) (root : String) (rest : Path) :
    invalidFieldAccess l (root :: rest) =
      if (findGlobal l (root :: rest)).isFound = false ∧ globalHasFields l root = true ∧
          writableAncestor l (root :: rest).dropLast (root :: rest).dropLast.length 1 = false
      then [.noField] else [] := by
  unfold invalidFieldAccess
  dsimp only
  generalize (findGlobal l (root :: rest)).isFound = a
  generalize globalHasFields l root = b
  generalize writableAncestor l (root :: rest).dropLast (root :: rest).dropLast.length 1 = c
  cases a <;> cases b <;> cases c <;> rfl

/-- a read (or write) of a path the library does not define is reported iff the root is a known
global and no ancestor on the way accepts new fields -/
theorem C06_read (l : SegLib) (root : String) (rest : Path) :
    invalidFieldAccess l (root :: rest) = [.noField] ↔
      (findGlobal l (root :: rest)).isFound = false ∧ globalHasFields l root = true ∧
      writableAncestor l (root :: rest).dropLast (root :: rest).dropLast.length 1 = false := by
  rw [invalidFieldAccess_cons]
  split
  next h => exact iff_of_true rfl h
  next h => exact iff_of_false nofun h

/-- a locally bound root silences the target (the C07 gate), whatever the library says -/
theorem C06_resolved_silent (l : SegLib) (p : Path) (n : String) :
    targetProblems l (.path p true) = [] ∧ targetProblems l (.name n true) = [] :=
  ⟨rfl, rfl⟩

private def demoLib : SegLib :=
  { globals := [(["a", "*", "c"], { kind := .any }), (["a", "b"], { kind := .struct "S" }),
                (["m", "pi"], { kind := .property .readOnly })],
    structs := [("S", [(["x"], { kind := .property .fullWrite }), (["*"], { kind := .function { args := [] } })])] }

example : WF demoLib ∧ structsClosed demoLib := by decide +kernel
-- explicit segment `b` beats `*`, then continues inside struct S
example : findGlobal demoLib ["a", "b", "x"] = .found { kind := .property .fullWrite } := by decide +kernel
-- `*` segment, then `any` accepts everything below
example : findGlobal demoLib ["a", "q", "c", "deep", "er"] = .found { kind := .any } := by decide +kernel
-- implicit read-only prefix
example : findGlobal demoLib ["m"] = .found readOnlyField := by decide +kernel
example : findGlobal demoLib ["m", "tau"] = .absent := by decide +kernel
example : invalidFieldAccess demoLib ["m", "tau"] = [.noField] := by decide +kernel
example : assignmentProblems demoLib [.name "L" true, .path ["m", "pi"] false] = [(1, .notWritable)] := by decide +kernel

open Selene.Std.Prog Selene.Lua in
/-- **C06 (reads) in a program.** In any program, an expression `root.a.b…` whose root identifier is not bound by
the script is reported "does not contain the field" iff the path is absent from the library, the root is a known
global and no ancestor on the way accepts new fields — and nothing else is ever reported for it. -/
theorem C06_prog_read (l : SegLib) (R : Nat → Bool) (e : Lua.Expr) (root : String) (rest : Path)
    (hu : R (exprStart e) = false) (hp : namePathE e = some (root :: rest)) :
    ((stdExpr l R e).map (·.kind) = [.access .noField] ↔
      ((findGlobal l (root :: rest)).isFound = false ∧ globalHasFields l root = true ∧
       writableAncestor l (root :: rest).dropLast (root :: rest).dropLast.length 1 = false)) ∧
    ((stdExpr l R e).map (·.kind) = [.access .noField] ∨ stdExpr l R e = []) := by
  rw [← List.map_eq_nil_iff (f := (·.kind)), stdExpr_kinds l R e (root :: rest) hu hp, invalidFieldAccess_cons]
  split
  next h => exact ⟨iff_of_true rfl h, Or.inl rfl⟩
  next h => exact ⟨iff_of_false nofun h, Or.inr rfl⟩

open Selene.Std.Prog Selene.Lua in
/-- **C06 (writes) in a program.** Every target of every assignment is judged on its own, by the table of
`C06_write_existing` / `C06_read`: what is reported for an assignment is the concatenation of what its targets
draw, and a target whose root the script binds draws nothing. -/
theorem C06_prog_write (l : SegLib) (R : Nat → Bool) (vs : VarList) :
    (stdTargets l R vs).map (·.kind) = vs.toList.flatMap fun v => (targetProblems l (targetOf R v)).map Kind.access :=
  stdTargets_kinds l R vs

end Selene.Props.C06
