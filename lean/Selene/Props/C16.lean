/-
C16 — the configured standard library decides exactly which syntax is accepted.
-/
import Selene.Std.Versions
import Selene.Props.C15
import Selene.Generated.StdChains
namespace Selene.Props.C16
open Selene.Std

/-- dialect `φ` is on for a list of declared versions: some declared, known version includes it -/
def Spec.enabled (vs : List LuaVersion) (φ : Feature) : Prop :=
  ∃ v ∈ vs, ∃ d, v.dialects = some d ∧ d.has φ = true

theorem Dialects.has_or (a b : Dialects) (φ : Feature) : (a.or b).has φ = (a.has φ || b.has φ) := by
  cases φ <;> rfl

theorem step_has (acc : Dialects × List String) (v : LuaVersion) (φ : Feature) :
    (luaVersionStep acc v).1.has φ = true ↔ acc.1.has φ = true ∨ ∃ d, v.dialects = some d ∧ d.has φ = true := by
  unfold luaVersionStep
  cases v.dialects with
  | none => simp
  | some d => simp [Dialects.has_or]

theorem enabled_cons (v : LuaVersion) (vs : List LuaVersion) (φ : Feature) :
    Spec.enabled (v :: vs) φ ↔ (∃ d, v.dialects = some d ∧ d.has φ = true) ∨ Spec.enabled vs φ := by
  simp only [Spec.enabled, List.mem_cons, or_and_right, exists_or, exists_eq_left]

theorem fold_has (vs : List LuaVersion) (acc : Dialects × List String) (φ : Feature) :
    (vs.foldl luaVersionStep acc).1.has φ = true
    ↔ acc.1.has φ = true ∨ Spec.enabled vs φ := by
  induction vs generalizing acc with
  | nil => simp [Spec.enabled]
  | cons v rest ih => rw [List.foldl_cons, ih, step_has, enabled_cons, or_assoc]

/-- **C16 (union).** The dialect set a file is parsed with is exactly the union of the declared
dialects (Lua 5.1, which enables no extra feature, when none is declared). -/
theorem C16_union (vs : List LuaVersion) (φ : Feature) :
    (luaVersion vs).1.has φ = true ↔ Spec.enabled vs φ := by
  unfold luaVersion
  rw [fold_has, show Dialects.lua51.has φ = false by cases φ <;> rfl]
  simp only [Bool.false_eq_true, false_or]

/-- with no declared version the file is parsed as plain Lua 5.1 -/
theorem C16_default : (luaVersion []).1 = Dialects.lua51 := rfl

/-- a construct belonging only to undeclared dialects is rejected, one of a declared dialect accepted -/
theorem C16_accepts (vs : List LuaVersion) (c : Construct) (hc : c.enabledBy ≠ []) :
    accepts (luaVersion vs).1 c = true ↔ ∃ φ ∈ c.enabledBy, Spec.enabled vs φ := by
  simp only [accepts, List.isEmpty_eq_false_iff.mpr hc, Bool.false_or, List.any_eq_true, C16_union]

/-! ## The shipped libraries (table regenerated from /repo on every run) -/

def parseVersion : String → LuaVersion
  | "lua51" => .lua51 | "lua52" => .lua52 | "lua53" => .lua53 | "lua54" => .lua54
  | "luau" => .luau | "luajit" => .luajit | s => .unknown s

def fileHeader (stem : String) : Option (Option String × List LuaVersion) :=
  (Selene.Generated.stdFiles.find? (·.1 = stem)).map fun r => (r.2.1, r.2.2.map parseVersion)

/-- stems of a library and of everything it is based on (fuel = number of files) -/
def ancestry : Nat → String → List String
  | 0, _ => []
  | fuel + 1, stem =>
    match fileHeader stem with
    | none => []
    | some (none, _) => [stem]
    | some (some b, _) => stem :: ancestry fuel b

/-- versions of the effective library, by the rule `C15_chain_versions` proves of `nest`: first library that
    declares any wins -/
def effectiveVersions (stem : String) : List LuaVersion :=
  let chain := ancestry Selene.Generated.stdFiles.length stem
  match chain.find? (fun s => match fileHeader s with | some (_, vs) => !vs.isEmpty | none => false) with
  | some s => match fileHeader s with | some (_, vs) => vs | none => []
  | none => []

/-- the language version a file is named after (roblox_base is named after none) -/
def namedAfter (stem : String) : Dialects :=
  match (parseVersion stem).dialects with
  | some d => d
  | none => {}

def Dialects.subset (a b : Dialects) : Bool :=
  (!a.luau || b.luau) && (!a.lua52 || b.lua52) && (!a.lua53 || b.lua53) && (!a.lua54 || b.lua54)
    && (!a.luajit || b.luajit)

def builtinOk (stem : String) : Bool :=
  (ancestry Selene.Generated.stdFiles.length stem).all fun a =>
    Dialects.subset (namedAfter a) (luaVersion (effectiveVersions stem)).1

/-- **C16 (built-ins).** Each shipped library accepts the syntax of the version it is named after
and of every version it is based on.  Re-checked by `decide` against the regenerated table. -/
theorem C16_builtin : ∀ r ∈ Selene.Generated.stdFiles, builtinOk r.1 = true := by decide +kernel

/-- every shipped base chain is complete (no dangling `base:`), and no version name is unknown -/
theorem C16_builtin_chains_closed :
    ∀ r ∈ Selene.Generated.stdFiles,
      (match r.2.1 with | none => true | some b => (fileHeader b).isSome) = true ∧
      (r.2.2.all fun v => (parseVersion v).dialects.isSome) = true := by decide +kernel

example : Spec.enabled [.lua53] .lua52 := ⟨.lua53, by simp, _, rfl, rfl⟩
example : accepts (luaVersion [.lua53]).1 .intDiv = true := by decide +kernel
example : accepts (luaVersion [.lua52]).1 .intDiv = false := by decide +kernel
example : builtinOk "lua53" = true := by decide +kernel
/-- regression witness for `fix: extend keeps derived lua_versions` in /repo: lua53's dialect is not within
    that of `[lua52]`, the versions it would have if its base's won -/
example : Dialects.subset (namedAfter "lua53") (luaVersion [.lua52]).1 = false := by decide +kernel

end Selene.Props.C16
