/-
What a renaming does to the forms of syntax the lints look for (each by definition) and to the list views of the
tree's list types.  `ren_eq_fixed`: how a lint that looks for `pairs` or `Roact` is unaffected by an injective
renaming that leaves that name alone; `find?_renKey`: a lookup by name in a list whose names are renamed.
-/
import Selene.Lua.Rename
namespace Selene.Lua

theorem ren_eq_fixed {ρ : String → String} (inj : ∀ a b, ρ a = ρ b → a = b) {c : String} (hc : ρ c = c) (n : String) :
    ρ n = c ↔ n = c :=
  ⟨fun e => inj _ _ (e.trans hc.symm), fun e => e ▸ hc⟩

theorem find?_renKey {β : Type} (ρ : String → String) (l : List (String × β)) (n : String)
    (hinj : ∀ e ∈ l, ρ e.1 = ρ n → e.1 = n) :
    (l.map fun e => (ρ e.1, e.2)).find? (·.1 = ρ n) = (l.find? (·.1 = n)).map fun e => (ρ e.1, e.2) := by
  induction l with
  | nil => rfl
  | cons e rest ih =>
    have he : decide (ρ e.1 = ρ n) = decide (e.1 = n) := decide_eq_decide.mpr ⟨hinj e (.head _), congrArg ρ⟩
    rw [List.map_cons, List.find?_cons, List.find?_cons, he]
    cases decide (e.1 = n) with
    | true => rfl
    | false => exact ih fun x hx => hinj x (.tail _ hx)

variable (ρ : String → String)

theorem Expr.ren_var (v : Var) : (Expr.var v).ren ρ = .var (v.ren ρ) := rfl
theorem Expr.ren_call (c : FCall) : (Expr.call c).ren ρ = .call (c.ren ρ) := rfl
theorem Expr.ren_str (t : Tok) (q : QuoteKind) (l : String) : (Expr.str t q l).ren ρ = .str t q l := rfl
theorem Expr.ren_tbl (sp : Span) (fs : FieldList) : (Expr.tbl sp fs).ren ρ = .tbl sp (fs.ren ρ) := rfl
theorem Var.ren_expr (sp : Span) (p : Prefix) (ss : SuffixList) : (Var.expr sp p ss).ren ρ = .expr sp (p.ren ρ) (ss.ren ρ) := rfl
theorem Prefix.ren_name (t : Tok) : (Prefix.name t).ren ρ = .name (t.ren ρ) := rfl
theorem Suffix.ren_dot (sp : Span) (n : Tok) : (Suffix.dot sp n).ren ρ = .dot sp n := rfl
theorem Suffix.ren_idx (sp : Span) (e : Expr) : (Suffix.idx sp e).ren ρ = .idx sp (e.ren ρ) := rfl
theorem Suffix.ren_args (sp : Span) (a : Args) : (Suffix.args sp a).ren ρ = .args sp (a.ren ρ) := rfl
theorem Args.ren_parens (sp : Span) (es : ExprList) : (Args.parens sp es).ren ρ = .parens sp (es.ren ρ) := rfl
theorem FCall.ren_mk (sp : Span) (p : Prefix) (ss : SuffixList) : (FCall.mk sp p ss).ren ρ = .mk sp (p.ren ρ) (ss.ren ρ) := rfl
theorem Field.ren_exprKey (sp : Span) (k v : Expr) : (Field.exprKey sp k v).ren ρ = .exprKey sp (k.ren ρ) (v.ren ρ) := rfl
theorem Stmt.ren_assign (sp : Span) (vs : VarList) (es : ExprList) : (Stmt.assign sp vs es).ren ρ = .assign sp (vs.ren ρ) (es.ren ρ) := rfl
theorem Block.ren_mk (sp : Option Span) (ss : StmtList) (l : LastStmt) : (Block.mk sp ss l).ren ρ = .mk sp (ss.ren ρ) (l.ren ρ) := rfl

theorem ExprList.toList_ren : (es : ExprList) → (es.ren ρ).toList = es.toList.map (Expr.ren ρ)
  | .nil => rfl
  | .cons e rest => congrArg (e.ren ρ :: ·) (toList_ren rest)

theorem SuffixList.toList_ren : (ss : SuffixList) → (ss.ren ρ).toList = ss.toList.map (Suffix.ren ρ)
  | .nil => rfl
  | .cons s rest => congrArg (s.ren ρ :: ·) (toList_ren rest)

theorem VarList.toList_ren : (vs : VarList) → (vs.ren ρ).toList = vs.toList.map (Var.ren ρ)
  | .nil => rfl
  | .cons v rest => congrArg (v.ren ρ :: ·) (toList_ren rest)

theorem FieldList.toList_ren : (fs : FieldList) → (fs.ren ρ).toList = fs.toList.map (Field.ren ρ)
  | .nil => rfl
  | .cons f rest => congrArg (f.ren ρ :: ·) (toList_ren rest)

theorem StmtList.toList_ren : (l : StmtList) → (l.ren ρ).toList = l.toList.map (Stmt.ren ρ)
  | .nil => rfl
  | .cons s rest => congrArg (s.ren ρ :: ·) (toList_ren rest)

end Selene.Lua
