/- What the specification answers on a well-formed forest. -/
import Selene.Filter.Build
namespace Selene.Filter
open Spec

def cov (d : Diag) (l : List Filter) : List Filter := l.filter fun f => covers f d

theorem innermost_mem (l : List Filter) (f : Filter) (h : innermost l = some f) : f ∈ l := by
  induction l generalizing f with
  | nil => cases h
  | cons x rest ih =>
    rw [innermost] at h
    split at h
    · cases h; exact List.mem_cons_self
    · rename_i g hg
      split at h <;> cases h
      · exact List.mem_cons_of_mem _ (ih _ hg)
      · exact List.mem_cons_self

theorem innermost_eq_none (l : List Filter) : innermost l = none ↔ l = [] := by
  cases l with
  | nil => simp [innermost]
  | cons x rest =>
    simp only [innermost]
    cases innermost rest with
    | none => simp
    | some g => simp only; split <;> simp

/-- filters of one piece come first and all start where it starts; what is inside starts later -/
theorem innermost_append (a : Nat) (A B : List Filter) (hA : ∀ x ∈ A, x.range.1 = a) (hB : ∀ y ∈ B, a < y.range.1) :
    innermost (A ++ B) = (innermost B).or A.head? := by
  induction A with
  | nil => exact (Option.or_none ..).symm
  | cons x rest ih =>
    have hx : x.range.1 = a := hA x List.mem_cons_self
    rw [List.cons_append, innermost, ih fun y hy => hA y (List.mem_cons_of_mem _ hy), List.head?_cons]
    cases hb : innermost B with
    | some g => exact if_pos (hx ▸ hB g (innermost_mem B g hb))
    | none =>
      cases hr : rest.head? with
      | none => rfl
      | some g => exact if_neg (by rw [hx, hA g (List.mem_cons_of_mem _ (List.mem_of_mem_head? hr))]; exact Nat.lt_irrefl a)

theorem own_cov (a b : Nat) (cfgs : List (Config × (Nat × Nat))) (d : Diag) (hin : a ≤ d.start ∧ d.start < b)
    (hg : ∀ c ∈ cfgs, c.1.global = false) :
    ((cov d (cfgs.map fun c => ({ cfg := c.1, commentRange := c.2, range := (a, b) } : Filter))).head?).map (·.cfg) =
      (cfgs.map (·.1)).find? (fun c => c.lint = d.code) := by
  have : ∀ f ∈ cfgs.map fun c => ({ cfg := c.1, commentRange := c.2, range := (a, b) } : Filter),
      covers f d = decide (f.cfg.lint = d.code) := fun f hf => by
    obtain ⟨c, hc, rfl⟩ := List.mem_map.mp hf
    simp [covers, hg c hc, hin.1, hin.2]
  rw [cov, List.filter_congr this, List.head?_filter, List.find?_map, List.find?_map, Option.map_map]
  rfl

mutual
theorem Tree.ranges_within (t : Tree) (lo hi : Nat) (h : t.WF lo hi) :
    ∀ f ∈ t.filters, t.start ≤ f.range.1 ∧ f.range.2 ≤ t.stop := by
  cases t with
  | node a b cfgs ch =>
    have ih := Forest.ranges_within ch (a + 1) b h.2.2.2.2.2
    exact List.forall_mem_append.mpr ⟨List.forall_mem_map.mpr fun _ _ => ⟨Nat.le_refl a, Nat.le_refl b⟩,
      fun f hf => ⟨Nat.le_of_succ_le (ih f hf).1, (ih f hf).2⟩⟩
  | point a cfgs => exact List.forall_mem_map.mpr fun _ _ => ⟨Nat.le_refl a, Nat.le_refl a⟩
theorem Forest.ranges_within (f : Forest) (lo hi : Nat) (h : f.WF lo hi) :
    ∀ x ∈ f.filters, lo ≤ x.range.1 ∧ x.range.2 ≤ hi := by
  cases f with
  | nil => intro x hx; cases hx
  | cons t rest =>
    have hs := Tree.start_le_stop t lo hi h.1
    refine List.forall_mem_append.mpr ⟨fun x hx => ?_, Forest.ranges_within rest lo hi (Forest.WF_tail h)⟩
    have := Tree.ranges_within t lo hi h.1 x hx
    exact ⟨Nat.le_trans hs.1 this.1, Nat.le_trans this.2 hs.2.2⟩
end

theorem cov_outside (d : Diag) (l : List Filter) (lo hi : Nat) (h : ∀ f ∈ l, lo ≤ f.range.1 ∧ f.range.2 ≤ hi)
    (hp : d.start < lo ∨ hi ≤ d.start) : cov d l = [] := by
  refine List.filter_eq_nil_iff.mpr fun f hf hc => ?_
  obtain ⟨h1, h2⟩ := h f hf
  simp only [covers, Bool.and_eq_true, decide_eq_true_eq] at hc
  omega

theorem cov_append (d : Diag) (a b : List Filter) : cov d (a ++ b) = cov d a ++ cov d b :=
  List.filter_append ..

theorem Tree.cov_outside (t : Tree) (lo hi : Nat) (h : t.WF lo hi) (d : Diag) (hp : d.start < t.start ∨ t.stop ≤ d.start) :
    cov d t.filters = [] :=
  Selene.Filter.cov_outside d _ t.start t.stop (Tree.ranges_within t lo hi h) hp

mutual
/-- **innermost covering filter = first matching configuration on the stack of enclosing filters** -/
theorem Tree.spec_active (t : Tree) (lo hi : Nat) (h : t.WF lo hi) (d : Diag) :
    (innermost (cov d t.filters)).map (·.cfg) = (t.active d.start).find? (fun c => c.lint = d.code) := by
  cases t with
  | node a b cfgs ch =>
    by_cases hin : a ≤ d.start ∧ d.start < b
    · obtain ⟨_, _, _, _, hg, hch⟩ := h
      rw [Tree.filters, cov_append, innermost_append a, Option.map_or, Forest.spec_active ch (a + 1) b hch d,
        own_cov a b cfgs d hin hg, Tree.active, if_pos hin, List.find?_append]
      · intro x hx
        obtain ⟨c, _, rfl⟩ := List.mem_map.mp (List.mem_filter.mp hx).1
        rfl
      · intro y hy
        exact (Forest.ranges_within ch (a + 1) b hch y (List.mem_filter.mp hy).1).1
    · have hout : d.start < a ∨ b ≤ d.start := by omega
      rw [Tree.cov_outside _ lo hi h d hout, Tree.active, if_neg hin]
      rfl
  | point a cfgs =>
    rw [Tree.cov_outside _ lo hi h d (Nat.lt_or_ge d.start a)]
    rfl
theorem Forest.spec_active (f : Forest) (lo hi : Nat) (h : f.WF lo hi) (d : Diag) :
    (innermost (cov d f.filters)).map (·.cfg) = (f.active d.start).find? (fun c => c.lint = d.code) := by
  cases f with
  | nil => rfl
  | cons t rest =>
    obtain ⟨h1, h2⟩ := h
    rw [Forest.filters, Forest.active, cov_append]
    by_cases hpb : d.start < t.stop
    · rw [cov_outside d _ (t.stop + 1) hi (Forest.ranges_within rest _ hi h2) (Or.inl (Nat.lt_succ_of_lt hpb)),
        Forest.active_outside rest (t.stop + 1) hi d.start h2 (Or.inl (Nat.lt_succ_of_lt hpb)),
        List.append_nil, List.append_nil]
      exact Tree.spec_active t lo hi h1 d
    · rw [Tree.cov_outside t lo hi h1 d (Or.inr (Nat.le_of_not_lt hpb)),
        Tree.active_outside t d.start (Or.inr (Nat.le_of_not_lt hpb)), List.nil_append, List.nil_append]
      exact Forest.spec_active rest (t.stop + 1) hi h2 d
end

end Selene.Filter
