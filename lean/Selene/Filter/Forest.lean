/-
A laminar family of filter ranges as a forest of code pieces.  Running its instructions up to byte `p` leaves on
the stack the configurations of the pieces that contain `p`, innermost on top (`exec_prefix`).
-/
import Selene.Filter.Exec
namespace Selene.Filter

mutual
/-- a piece of code `[a, b)` with the filters attached to it (comment order) and the filtered pieces inside
    it; `point`: a zero-width piece (the end-of-file token), whose filters cover nothing -/
inductive Tree where
  | node (a b : Nat) (cfgs : List (Config × (Nat × Nat))) (children : Forest)
  | point (a : Nat) (cfgs : List (Config × (Nat × Nat)))
/-- siblings in source order -/
inductive Forest where
  | nil
  | cons (t : Tree) (rest : Forest)
end

def Tree.start : Tree → Nat
  | .node a _ _ _ => a
  | .point a _ => a
def Tree.stop : Tree → Nat
  | .node _ b _ _ => b
  | .point a _ => a

mutual
/-- the filters in the order the visitor claims them (pre-order) -/
def Tree.filters : Tree → List Filter
  | .node a b cfgs ch => cfgs.map (fun c => { cfg := c.1, commentRange := c.2, range := (a, b) }) ++ ch.filters
  | .point a cfgs => cfgs.map (fun c => { cfg := c.1, commentRange := c.2, range := (a, a) })
def Forest.filters : Forest → List Filter
  | .nil => []
  | .cons t rest => t.filters ++ rest.filters
end

mutual
/-- ranges nested or strictly apart, a nested range starts after the enclosing one, every node carries a filter,
    none of them global; everything inside `[lo, hi]`.
    The `+ 1`s: of two instructions at one byte the machine runs the later inserted first, so a piece starting
    where its parent starts or its predecessor ends would run before that push / pop (`[0,5)`, `[5,8)` gives
    push 0, push 5, pop 5, pop 8). -/
def Tree.WF (lo hi : Nat) : Tree → Prop
  | .node a b cfgs ch => lo ≤ a ∧ a < b ∧ b ≤ hi ∧ cfgs ≠ [] ∧ (∀ c ∈ cfgs, c.1.global = false) ∧ ch.WF (a + 1) b
  | .point a cfgs => lo ≤ a ∧ a ≤ hi ∧ cfgs ≠ [] ∧ (∀ c ∈ cfgs, c.1.global = false)
def Forest.WF (lo hi : Nat) : Forest → Prop
  | .nil => True
  | .cons t rest => t.WF lo hi ∧ rest.WF (t.stop + 1) hi
end

mutual
/-- execution order; the last filter of a node is pushed first, so that the first ends on top -/
def Tree.instrs : Tree → List Instr
  | .node a b cfgs ch =>
    (cfgs.reverse.map fun c => Instr.push c.1 a) ++ ch.instrs ++ cfgs.map fun _ => Instr.pop b
  | .point a cfgs => cfgs.reverse.flatMap fun c => [Instr.push c.1 a, Instr.pop a]
def Forest.instrs : Forest → List Instr
  | .nil => []
  | .cons t rest => t.instrs ++ rest.instrs
end

mutual
/-- configurations of the pieces that contain byte `p`, innermost first -/
def Tree.active (p : Nat) : Tree → List Config
  | .node a b cfgs ch => if a ≤ p ∧ p < b then ch.active p ++ cfgs.map (·.1) else []
  | .point _ _ => []
def Forest.active (p : Nat) : Forest → List Config
  | .nil => []
  | .cons t rest => t.active p ++ rest.active p
end

theorem exec_pops {α} (l : List α) (f : α → Config) (b : Nat) (s : List Config) :
    exec (l.map fun _ => Instr.pop b) (l.map f ++ s) = some s := by
  induction l with
  | nil => rfl
  | cons c rest ih => exact ih

theorem exec_point (cfgs : List (Config × (Nat × Nat))) (a : Nat) (s : List Config) :
    exec (cfgs.flatMap fun c => [Instr.push c.1 a, Instr.pop a]) s = some s := by
  induction cfgs with
  | nil => rfl
  | cons c rest ih => exact ih

theorem Tree.start_le_stop (t : Tree) (lo hi : Nat) (h : t.WF lo hi) : lo ≤ t.start ∧ t.start ≤ t.stop ∧ t.stop ≤ hi := by
  cases t with
  | node a b cfgs ch => exact ⟨h.1, Nat.le_of_lt h.2.1, h.2.2.1⟩
  | point a cfgs => exact ⟨h.1, Nat.le_refl a, h.2.1⟩

theorem Tree.WF_mono (t : Tree) (lo hi lo' hi' : Nat) (h : t.WF lo hi) (hl : lo' ≤ lo) (hh : hi ≤ hi') : t.WF lo' hi' := by
  cases t with
  | node a b cfgs ch => exact ⟨Nat.le_trans hl h.1, h.2.1, Nat.le_trans h.2.2.1 hh, h.2.2.2⟩
  | point a cfgs => exact ⟨Nat.le_trans hl h.1, Nat.le_trans h.2.1 hh, h.2.2⟩

theorem Forest.WF_mono (f : Forest) (lo hi lo' : Nat) (h : f.WF lo hi) (hl : lo' ≤ lo) : f.WF lo' hi := by
  cases f with
  | nil => trivial
  | cons t rest => exact ⟨Tree.WF_mono t lo hi lo' hi h.1 hl (Nat.le_refl _), h.2⟩

theorem Forest.WF_tail {t : Tree} {rest : Forest} {lo hi : Nat} (h : (Forest.cons t rest).WF lo hi) : rest.WF lo hi :=
  have hs := Tree.start_le_stop t lo hi h.1
  Forest.WF_mono rest _ hi lo h.2 (Nat.le_succ_of_le (Nat.le_trans hs.1 hs.2.1))

theorem Forest.WF_empty (f : Forest) (lo hi : Nat) (h : f.WF lo hi) (hlt : hi < lo) : f = .nil := by
  cases f with
  | nil => rfl
  | cons t rest =>
    have hs := Tree.start_le_stop t lo hi h.1
    exact absurd (Nat.le_trans hs.1 (Nat.le_trans hs.2.1 hs.2.2)) (Nat.not_le_of_lt hlt)

mutual
theorem Tree.bytes_within (t : Tree) (lo hi : Nat) (h : t.WF lo hi) :
    ∀ i ∈ t.instrs, t.start ≤ i.bytes ∧ i.bytes ≤ t.stop := by
  cases t with
  | node a b cfgs ch =>
    obtain ⟨_, hab, _, _, _, hch⟩ := h
    have ih := Forest.bytes_within ch (a + 1) b hch
    refine List.forall_mem_append.mpr ⟨List.forall_mem_append.mpr ⟨?_, ?_⟩, ?_⟩
    · exact List.forall_mem_map.mpr fun _ _ => ⟨Nat.le_refl a, Nat.le_of_lt hab⟩
    · exact fun i hi => ⟨Nat.le_of_succ_le (ih i hi).1, (ih i hi).2⟩
    · exact List.forall_mem_map.mpr fun _ _ => ⟨Nat.le_of_lt hab, Nat.le_refl b⟩
  | point a cfgs =>
    exact List.forall_mem_flatMap.mpr fun _ _ =>
      List.forall_mem_cons.mpr ⟨⟨Nat.le_refl a, Nat.le_refl a⟩, List.forall_mem_singleton.mpr ⟨Nat.le_refl a, Nat.le_refl a⟩⟩
theorem Forest.bytes_within (f : Forest) (lo hi : Nat) (h : f.WF lo hi) : ∀ i ∈ f.instrs, lo ≤ i.bytes ∧ i.bytes ≤ hi := by
  cases f with
  | nil => intro i hm; cases hm
  | cons t rest =>
    have hs := Tree.start_le_stop t lo hi h.1
    refine List.forall_mem_append.mpr ⟨fun i hm => ?_, Forest.bytes_within rest lo hi (Forest.WF_tail h)⟩
    have := Tree.bytes_within t lo hi h.1 i hm
    exact ⟨Nat.le_trans hs.1 this.1, Nat.le_trans this.2 hs.2.2⟩
end

mutual
theorem Tree.instrs_sorted (t : Tree) (lo hi : Nat) (h : t.WF lo hi) : t.instrs.Pairwise fun i j => i.bytes ≤ j.bytes := by
  cases t with
  | node a b cfgs ch =>
    have hall := Tree.bytes_within _ lo hi h
    have hch := h.2.2.2.2.2
    refine List.pairwise_append.mpr ⟨List.pairwise_append.mpr ⟨?_, Forest.instrs_sorted ch (a + 1) b hch, ?_⟩, ?_, ?_⟩
    · exact List.pairwise_map.mpr (List.pairwise_of_forall fun _ _ => Nat.le_refl a)
    · exact List.forall_mem_map.mpr fun _ _ j hj => Nat.le_of_succ_le (Forest.bytes_within ch (a + 1) b hch j hj).1
    · exact List.pairwise_map.mpr (List.pairwise_of_forall fun _ _ => Nat.le_refl b)
    · exact fun i hi => List.forall_mem_map.mpr fun _ _ => (hall i (List.mem_append_left _ hi)).2
  | point a cfgs =>
    have hall := Tree.bytes_within (.point a cfgs) lo hi h
    exact List.pairwise_of_forall_mem_list fun i hi j hj => Nat.le_trans (hall i hi).2 (hall j hj).1
theorem Forest.instrs_sorted (f : Forest) (lo hi : Nat) (h : f.WF lo hi) : f.instrs.Pairwise fun i j => i.bytes ≤ j.bytes := by
  cases f with
  | nil => exact List.Pairwise.nil
  | cons t rest =>
    obtain ⟨h1, h2⟩ := h
    refine List.pairwise_append.mpr ⟨Tree.instrs_sorted t lo hi h1, Forest.instrs_sorted rest _ hi h2, fun i hi' j hj => ?_⟩
    exact Nat.le_trans (Tree.bytes_within t lo hi h1 i hi').2 (Nat.le_of_succ_le (Forest.bytes_within rest _ hi h2 j hj).1)
end

theorem takeWhile_eq_filter {α} {q : α → Bool} {l : List α} (h : l.Pairwise fun x y => q y = true → q x = true) :
    l.takeWhile q = l.filter q := by
  induction l with
  | nil => rfl
  | cons x rest ih =>
    obtain ⟨hx, hr⟩ := List.pairwise_cons.mp h
    cases hq : q x
    · have : rest.filter q = [] := List.filter_eq_nil_iff.mpr fun y hy hqy => by simp [hx y hy hqy] at hq
      simp [hq, this]
    · simp [hq, ih hr]

theorem takeWhile_upTo {X : List Instr} (h : X.Pairwise fun i j => i.bytes ≤ j.bytes) (p : Nat) :
    X.takeWhile (upTo p) = X.filter (upTo p) :=
  takeWhile_eq_filter (h.imp fun hij hj => upTo_eq_true.mpr (Nat.le_trans hij (upTo_eq_true.mp hj)))

theorem filter_upTo_of_bytes {X : List Instr} {x : Nat} (h : ∀ i ∈ X, i.bytes = x) (p : Nat) :
    X.filter (upTo p) = if x ≤ p then X else [] := by
  split
  · exact List.filter_eq_self.mpr fun i hi => by rw [upTo_eq_true, h i hi]; assumption
  · exact List.filter_eq_nil_iff.mpr fun i hi => by rw [upTo_eq_true, h i hi]; assumption

theorem Tree.active_outside (t : Tree) (p : Nat) (hp : p < t.start ∨ t.stop ≤ p) : t.active p = [] := by
  cases t with
  | node a b cfgs ch => exact if_neg fun h => hp.elim (Nat.not_lt_of_le h.1) (Nat.not_le_of_lt h.2)
  | point a cfgs => rfl

theorem Forest.active_outside (f : Forest) (lo hi p : Nat) (h : f.WF lo hi) (hp : p < lo ∨ hi ≤ p) : f.active p = [] := by
  cases f with
  | nil => rfl
  | cons t rest =>
    obtain ⟨hlo, _, hhi⟩ := Tree.start_le_stop t lo hi h.1
    show t.active p ++ rest.active p = []
    rw [Tree.active_outside t p (hp.imp (fun h => Nat.lt_of_lt_of_le h hlo) (Nat.le_trans hhi)),
      Forest.active_outside rest lo hi p (Forest.WF_tail h) hp]
    rfl

theorem Tree.pending (t : Tree) (lo hi p : Nat) (h : t.WF lo hi) (hp : p < t.stop) : ∃ x ∈ t.instrs, upTo p x = false := by
  -- a piece carries a filter, so a `Pop` stands at its end
  refine ⟨Instr.pop t.stop, ?_, decide_eq_false (Nat.not_le_of_lt hp)⟩
  cases t with
  | node a b cfgs ch =>
    obtain ⟨c0, crest, rfl⟩ := List.exists_cons_of_ne_nil h.2.2.2.1
    exact List.mem_append_right _ List.mem_cons_self
  | point a cfgs =>
    obtain ⟨c0, crest, rfl⟩ := List.exists_cons_of_ne_nil h.2.2.1
    exact List.mem_flatMap.mpr ⟨c0, List.mem_reverse.mpr List.mem_cons_self, List.mem_cons_of_mem _ List.mem_cons_self⟩

mutual
theorem Tree.exec_upTo (t : Tree) (lo hi p : Nat) (h : t.WF lo hi) (s : List Config) :
    exec (t.instrs.filter (upTo p)) s = some (t.active p ++ s) := by
  cases t with
  | node a b cfgs ch =>
    obtain ⟨_, hab, _, _, _, hch⟩ := h
    have hpush := filter_upTo_of_bytes (X := cfgs.reverse.map fun c => Instr.push c.1 a) (x := a)
      (List.forall_mem_map.mpr fun _ _ => rfl) p
    have hpop := filter_upTo_of_bytes (X := cfgs.map fun _ => Instr.pop b) (x := b)
      (List.forall_mem_map.mpr fun _ _ => rfl) p
    have ih := Forest.exec_upTo ch (a + 1) b p hch
    have hout := Forest.active_outside ch (a + 1) b p hch
    simp only [Tree.instrs, Tree.active, List.filter_append, exec_append, hpush, hpop]
    by_cases hpa : a ≤ p
    · rw [if_pos hpa, exec_pushes cfgs (·.1) a, Option.bind_some, ih, Option.bind_some]
      by_cases hpb : b ≤ p
      · have hin : ¬(a ≤ p ∧ p < b) := fun h => Nat.not_le_of_lt h.2 hpb
        rw [if_pos hpb, if_neg hin, hout (Or.inr hpb)]
        exact exec_pops cfgs (·.1) b s
      · rw [if_neg hpb, if_pos ⟨hpa, Nat.lt_of_not_le hpb⟩, List.append_assoc]
        rfl
    · have hpb : ¬b ≤ p := fun h => hpa (Nat.le_trans (Nat.le_of_lt hab) h)
      have hin : ¬(a ≤ p ∧ p < b) := fun h => hpa h.1
      have hch0 : ch.active p = [] := hout (Or.inl (Nat.lt_succ_of_lt (Nat.lt_of_not_le hpa)))
      rw [if_neg hpa, if_neg hpb, if_neg hin, exec, Option.bind_some, ih, hch0]
      rfl
  | point a cfgs =>
    have hb := Tree.bytes_within _ lo hi h
    rw [filter_upTo_of_bytes (x := a) (fun i hi => Nat.le_antisymm (hb i hi).2 (hb i hi).1) p]
    split
    · exact exec_point cfgs.reverse a s
    · rfl
theorem Forest.exec_upTo (f : Forest) (lo hi p : Nat) (h : f.WF lo hi) (s : List Config) :
    exec (f.instrs.filter (upTo p)) s = some (f.active p ++ s) := by
  cases f with
  | nil => rfl
  | cons t rest =>
    obtain ⟨h1, h2⟩ := h
    simp only [Forest.instrs, Forest.active, List.filter_append, exec_append, Tree.exec_upTo t lo hi p h1,
      Option.bind_some, Forest.exec_upTo rest _ hi p h2]
    by_cases hp : p < t.stop
    · rw [Forest.active_outside rest _ hi p h2 (Or.inl (Nat.lt_succ_of_lt hp)), List.nil_append, List.append_nil]
    · rw [Tree.active_outside t p (Or.inr (Nat.le_of_not_lt hp)), List.nil_append, List.nil_append]
end

theorem Tree.exec_prefix (t : Tree) (lo hi p : Nat) (h : t.WF lo hi) (s : List Config) :
    exec (t.instrs.takeWhile (upTo p)) s = some (t.active p ++ s) := by
  rw [takeWhile_upTo (Tree.instrs_sorted t lo hi h)]
  exact Tree.exec_upTo t lo hi p h s

theorem Forest.exec_prefix (f : Forest) (lo hi p : Nat) (h : f.WF lo hi) (s : List Config) :
    exec (f.instrs.takeWhile (upTo p)) s = some (f.active p ++ s) := by
  rw [takeWhile_upTo (Forest.instrs_sorted f lo hi h)]
  exact Forest.exec_upTo f lo hi p h s

end Selene.Filter
