/-
Executable reconstruction of the forest behind a list of inline filters (claim order), used by the
driver on every program to check that the hypothesis of `C08_machine` holds for what the real
`get_filter_ranges` produced: the accepted inline filters are the pre-order of a well-formed forest.
-/
import Selene.Filter.Forest
namespace Selene.Filter

/-- read trees whose ranges lie in `[lo, hi]` off the front of the list (fuel = length of the list) -/
def parseForest : Nat → Nat → Nat → List Filter → Forest × List Filter
  | 0, _, _, fs => (.nil, fs)
  | fuel + 1, lo, hi, fs =>
    match fs with
    | [] => (.nil, [])
    | f :: _ =>
      let a := f.range.1
      let b := f.range.2
      if lo ≤ a ∧ a < b ∧ b ≤ hi then
        let own := fs.takeWhile fun g => g.range = (a, b)
        let rest1 := fs.dropWhile fun g => g.range = (a, b)
        let (ch, rest2) := parseForest fuel (a + 1) b rest1
        let (sib, rest3) := parseForest fuel (b + 1) hi rest2
        (.cons (.node a b (own.map fun g => (g.cfg, g.commentRange)) ch) sib, rest3)
      else if lo ≤ a ∧ a = b ∧ b ≤ hi then
        -- a zero-width piece (the end-of-file token)
        let own := fs.takeWhile fun g => g.range = (a, b)
        let rest1 := fs.dropWhile fun g => g.range = (a, b)
        let (sib, rest3) := parseForest fuel (a + 1) hi rest1
        (.cons (.point a (own.map fun g => (g.cfg, g.commentRange))) sib, rest3)
      else (.nil, fs)

mutual
def Tree.wfb (lo hi : Nat) : Tree → Bool
  | .node a b cfgs ch => decide (lo ≤ a) && decide (a < b) && decide (b ≤ hi) && !cfgs.isEmpty &&
      cfgs.all (fun c => !c.1.global) && ch.wfb (a + 1) b
  | .point a cfgs => decide (lo ≤ a) && decide (a ≤ hi) && !cfgs.isEmpty && cfgs.all (fun c => !c.1.global)
def Forest.wfb (lo hi : Nat) : Forest → Bool
  | .nil => true
  | .cons t rest => t.wfb lo hi && rest.wfb (t.stop + 1) hi
end

mutual
theorem Tree.wfb_sound (t : Tree) (lo hi : Nat) (h : t.wfb lo hi = true) : t.WF lo hi := by
  cases t with
  | node a b cfgs ch =>
    simp only [Tree.wfb, Bool.and_eq_true, decide_eq_true_eq, Bool.not_eq_true', List.all_eq_true,
      List.isEmpty_eq_false_iff] at h
    obtain ⟨⟨⟨⟨⟨h1, h2⟩, h3⟩, h4⟩, h5⟩, h6⟩ := h
    exact ⟨h1, h2, h3, h4, h5, Forest.wfb_sound ch (a + 1) b h6⟩
  | point a cfgs =>
    simp only [Tree.wfb, Bool.and_eq_true, decide_eq_true_eq, Bool.not_eq_true', List.all_eq_true,
      List.isEmpty_eq_false_iff] at h
    obtain ⟨⟨⟨h1, h2⟩, h4⟩, h5⟩ := h
    exact ⟨h1, h2, h4, h5⟩
theorem Forest.wfb_sound (f : Forest) (lo hi : Nat) (h : f.wfb lo hi = true) : f.WF lo hi := by
  cases f with
  | nil => trivial
  | cons t rest =>
    simp only [Forest.wfb, Bool.and_eq_true] at h
    exact ⟨Tree.wfb_sound t lo hi h.1, Forest.wfb_sound rest (t.stop + 1) hi h.2⟩
end

/-- the forest of a filter family, if the family is the pre-order of a well-formed one -/
def forestOf (fs : List Filter) : Option Forest :=
  let hi := fs.foldl (fun m f => max m f.range.2) 0
  let (F, rest) := parseForest (fs.length + 1) 0 hi fs
  if rest.isEmpty && F.wfb 0 hi && F.filters == fs then some F else none

theorem forestOf_sound (fs : List Filter) (F : Forest) (h : forestOf fs = some F) :
    ∃ hi, F.WF 0 hi ∧ F.filters = fs := by
  unfold forestOf at h
  simp only at h
  obtain ⟨hc, rfl⟩ := Option.ite_some_none_eq_some.mp h
  simp only [Bool.and_eq_true, beq_iff_eq] at hc
  exact ⟨_, Forest.wfb_sound _ _ _ hc.1.2, hc.2⟩

end Selene.Filter
