/- `build` inserts the `Pop` and the `Push` of every filter into a list kept in descending order of position. -/
import Selene.Filter.Forest
namespace Selene.Filter

/-- what one accepted inline filter does to the instruction list -/
def instrStep (is : List Instr) (f : Filter) : List Instr :=
  insertInstr (insertInstr is f.range.2 (.pop f.range.2)) f.range.1 (.push f.cfg f.range.1)

theorem insertInstr_at (A B : List Instr) (x : Nat) (new : Instr) (hA : ∀ i ∈ A, x ≤ i.bytes) (hB : ∀ i ∈ B, i.bytes < x) :
    insertInstr (A ++ B) x new = A ++ new :: B := by
  induction A with
  | nil =>
    cases B with
    | nil => rfl
    | cons i rest => exact if_pos (hB i List.mem_cons_self)
  | cons i rest ih =>
    exact (if_neg (Nat.not_lt.mpr (hA i List.mem_cons_self))).trans
      (congrArg (i :: ·) (ih fun j hj => hA j (List.mem_cons_of_mem _ hj)))

theorem instrStep_at (f : Filter) (A B C : List Instr) (hab : f.range.1 ≤ f.range.2)
    (hA : ∀ i ∈ A, f.range.2 ≤ i.bytes) (hB : ∀ i ∈ B, f.range.1 ≤ i.bytes ∧ i.bytes < f.range.2)
    (hC : ∀ i ∈ C, i.bytes < f.range.1) :
    instrStep (A ++ B ++ C) f = (A ++ [Instr.pop f.range.2]) ++ (B ++ [Instr.push f.cfg f.range.1]) ++ C := by
  unfold instrStep
  rw [List.append_assoc, insertInstr_at A (B ++ C) _ _ hA, List.append_cons, ← List.append_assoc,
    insertInstr_at (A ++ [Instr.pop f.range.2] ++ B) C _ _ _ hC, List.append_cons, List.append_assoc _ B]
  · exact List.forall_mem_append.mpr ⟨List.forall_mem_append.mpr
      ⟨fun i hi => Nat.le_trans hab (hA i hi), List.forall_mem_singleton.mpr hab⟩, fun i hi => (hB i hi).1⟩
  · exact List.forall_mem_append.mpr ⟨fun i hi => (hB i hi).2, fun i hi => Nat.lt_of_lt_of_le (hC i hi) hab⟩

/-- the filters of one piece of code: `Pop`s pile up after what is at or beyond `b` (`P`), pushes after what is at or beyond `a` (`Q`) -/
theorem foldl_instrStep_node (a b : Nat) (hab : a < b) (cfgs : List (Config × (Nat × Nat))) (P Q L : List Instr)
    (hP : ∀ i ∈ P, b ≤ i.bytes) (hQ : ∀ i ∈ Q, a ≤ i.bytes ∧ i.bytes < b) (hL : ∀ i ∈ L, i.bytes < a) :
    (cfgs.map fun c => ({ cfg := c.1, commentRange := c.2, range := (a, b) } : Filter)).foldl instrStep (P ++ Q ++ L) =
      (P ++ cfgs.map fun _ => Instr.pop b) ++ (Q ++ cfgs.map fun c => Instr.push c.1 a) ++ L := by
  induction cfgs generalizing P Q with
  | nil => simp
  | cons c rest ih =>
    rw [List.map_cons, List.foldl_cons, instrStep_at _ P Q L (Nat.le_of_lt hab) hP hQ hL,
      ih (P ++ [Instr.pop b]) (Q ++ [Instr.push c.1 a])
        (List.forall_mem_append.mpr ⟨hP, List.forall_mem_singleton.mpr (Nat.le_refl b)⟩)
        (List.forall_mem_append.mpr ⟨hQ, List.forall_mem_singleton.mpr ⟨Nat.le_refl a, hab⟩⟩),
      List.append_assoc P, List.append_assoc Q]
    rfl

theorem Tree.instrs_reverse (a b : Nat) (cfgs : List (Config × (Nat × Nat))) (ch : Forest) :
    (Tree.node a b cfgs ch).instrs.reverse =
      (cfgs.map fun _ => Instr.pop b) ++ ch.instrs.reverse ++ cfgs.map fun c => Instr.push c.1 a := by
  simp only [Tree.instrs, List.reverse_append, List.map_const', List.reverse_replicate, List.map_reverse,
    List.reverse_reverse, List.append_assoc]

theorem foldl_instrStep_point (a : Nat) (cfgs : List (Config × (Nat × Nat))) (M L : List Instr)
    (hM : ∀ i ∈ M, a ≤ i.bytes) (hL : ∀ i ∈ L, i.bytes < a) :
    (cfgs.map fun c => ({ cfg := c.1, commentRange := c.2, range := (a, a) } : Filter)).foldl instrStep (M ++ L) =
      (M ++ cfgs.flatMap fun c => [Instr.pop a, Instr.push c.1 a]) ++ L := by
  induction cfgs generalizing M with
  | nil => simp
  | cons c rest ih =>
    have step : instrStep (M ++ L) { cfg := c.1, commentRange := c.2, range := (a, a) } =
        M ++ [Instr.pop a, Instr.push c.1 a] ++ L := by
      simpa only [List.append_nil, List.append_assoc, List.cons_append, List.nil_append] using
        instrStep_at { cfg := c.1, commentRange := c.2, range := (a, a) } M [] L (Nat.le_refl a) hM (List.forall_mem_nil _) hL
    rw [List.map_cons, List.foldl_cons, step, ih (M ++ [Instr.pop a, Instr.push c.1 a])
      (List.forall_mem_append.mpr ⟨hM, List.forall_mem_cons.mpr ⟨Nat.le_refl a, List.forall_mem_singleton.mpr (Nat.le_refl a)⟩⟩),
      List.append_assoc M]
    rfl

theorem point_instrs_reverse (a : Nat) (cfgs : List (Config × (Nat × Nat))) :
    (Tree.point a cfgs).instrs.reverse = cfgs.flatMap fun c => [Instr.pop a, Instr.push c.1 a] := by
  rw [Tree.instrs, List.reverse_flatMap, List.reverse_reverse]
  rfl

mutual
/-- **the built list is the structural one**: inserting the filters of a forest (pre-order) between what lies
    beyond it and what lies before it yields the forest's instruction list, reversed -/
theorem Tree.build_instrs (t : Tree) (lo hi : Nat) (h : t.WF lo hi) (H L : List Instr)
    (hH : ∀ i ∈ H, hi ≤ i.bytes) (hL : ∀ i ∈ L, i.bytes < lo) :
    t.filters.foldl instrStep (H ++ L) = H ++ t.instrs.reverse ++ L := by
  cases t with
  | node a b cfgs ch =>
    obtain ⟨hlo, hab, hbhi, _, _, hch⟩ := h
    have hHb : ∀ i ∈ H, b ≤ i.bytes := fun i hi => Nat.le_trans hbhi (hH i hi)
    have hLa : ∀ i ∈ L, i.bytes < a := fun i hi => Nat.lt_of_lt_of_le (hL i hi) hlo
    have own := foldl_instrStep_node a b hab cfgs H [] L hHb (List.forall_mem_nil _) hLa
    rw [List.append_nil, List.nil_append, List.append_assoc] at own
    have hch' := Forest.build_instrs ch (a + 1) b hch (H ++ cfgs.map fun _ => Instr.pop b)
      ((cfgs.map fun c => Instr.push c.1 a) ++ L)
      (List.forall_mem_append.mpr ⟨hHb, List.forall_mem_map.mpr fun _ _ => Nat.le_refl b⟩)
      (List.forall_mem_append.mpr ⟨List.forall_mem_map.mpr fun _ _ => Nat.lt_succ_self a,
        fun i hi => Nat.lt_succ_of_lt (hLa i hi)⟩)
    rw [Tree.filters, List.foldl_append, own, hch', Tree.instrs_reverse]
    simp only [List.append_assoc]
  | point a cfgs =>
    obtain ⟨hlo, hahi, _, _⟩ := h
    rw [Tree.filters, foldl_instrStep_point a cfgs H L (fun i hi => Nat.le_trans hahi (hH i hi))
      (fun i hi => Nat.lt_of_lt_of_le (hL i hi) hlo), point_instrs_reverse]
theorem Forest.build_instrs (f : Forest) (lo hi : Nat) (h : f.WF lo hi) (H L : List Instr)
    (hH : ∀ i ∈ H, hi ≤ i.bytes) (hL : ∀ i ∈ L, i.bytes < lo) :
    f.filters.foldl instrStep (H ++ L) = H ++ f.instrs.reverse ++ L := by
  cases f with
  | nil => simp [Forest.filters, Forest.instrs]
  | cons t rest =>
    obtain ⟨h1, h2⟩ := h
    have hs := Tree.start_le_stop t lo hi h1
    have hbelow : ∀ i ∈ t.instrs.reverse ++ L, i.bytes < t.stop + 1 :=
      List.forall_mem_append.mpr
        ⟨fun i hm => Nat.lt_succ_of_le (Tree.bytes_within t lo hi h1 i (List.mem_reverse.mp hm)).2,
         fun i hm => Nat.lt_succ_of_lt (Nat.lt_of_lt_of_le (hL i hm) (Nat.le_trans hs.1 hs.2.1))⟩
    rw [Forest.filters, List.foldl_append, Tree.build_instrs t lo hi h1 H L hH hL, List.append_assoc,
      Forest.build_instrs rest (t.stop + 1) hi h2 H _ hH hbelow, Forest.instrs, List.reverse_append]
    simp only [List.append_assoc]
end

theorem isLate_of_inline (fc : Option Nat) (f : Filter) (h : f.cfg.global = false) : isLate fc f = false := by
  unfold isLate; rw [h]; rfl

theorem buildStep_instrs (fc : Option Nat) (st : BuildSt) (f : Filter) :
    (buildStep fc st f).instrs = if f.cfg.global then st.instrs else instrStep st.instrs f := by
  unfold buildStep
  cases hg : f.cfg.global
  · rw [isLate_of_inline fc f hg]; rfl
  · cases isLate fc f <;> rfl

theorem buildStep_globals (fc : Option Nat) (st : BuildSt) (f : Filter) :
    (buildStep fc st f).globals = if Spec.acceptedGlobal fc f then st.globals ++ [f] else st.globals := by
  unfold buildStep Spec.acceptedGlobal
  cases hg : f.cfg.global
  · rw [isLate_of_inline fc f hg]; rfl
  · cases isLate fc f <;> rfl

theorem foldl_buildStep_instrs (fc : Option Nat) (fs : List Filter) (st : BuildSt) :
    (fs.foldl (buildStep fc) st).instrs = (fs.filter fun f => !f.cfg.global).foldl instrStep st.instrs := by
  rw [List.foldl_filter]
  refine (List.foldl_hom BuildSt.instrs fun st f => ?_).symm
  rw [buildStep_instrs]
  cases f.cfg.global <;> rfl

theorem foldl_buildStep_globals (fc : Option Nat) (fs : List Filter) (st : BuildSt) :
    (fs.foldl (buildStep fc) st).globals = st.globals ++ fs.filter (Spec.acceptedGlobal fc) := by
  induction fs generalizing st with
  | nil => exact (List.append_nil _).symm
  | cons f rest ih =>
    rw [List.foldl_cons, ih, buildStep_globals, List.filter_cons]
    split
    · exact List.append_assoc ..
    · rfl

end Selene.Filter
