/- Facts about `filter_diagnostics` that hold for every family of filters, laminar or not. -/
import Selene.Filter.Build
namespace Selene.Filter

theorem decide1_eq (stack : List Config) (d : Diag) :
    decide1 stack d = match stack.find? (fun c => c.lint = d.code) with
      | some c => Spec.applySev c.sev d
      | none => some d := rfl

theorem decide1_cons (c : Config) (stack : List Config) (d : Diag) :
    decide1 (c :: stack) d = if c.lint = d.code then Spec.applySev c.sev d else decide1 stack d := by
  rw [decide1_eq, decide1_eq, List.find?_cons]
  by_cases h : c.lint = d.code
  · rw [if_pos h, decide_eq_true h]
  · rw [if_neg h, decide_eq_false h]

theorem decide1_unmatched (stack : List Config) (d : Diag)
    (h : ∀ c ∈ stack, c.lint ≠ d.code) : decide1 stack d = some d := by
  rw [decide1_eq, List.find?_eq_none.mpr fun c hc => by simpa using h c hc]

theorem filterDiagnostics_diags (entries : List RangeEntry) (fc : Option Nat) (ds : List Diag) :
    (filterDiagnostics entries fc ds).map (·.diags) =
      if (filtersOf entries).isEmpty then some ds
      else runDiags (sortDiags ds) (build fc (filtersOf entries)).instrs.reverse [] := by
  unfold filterDiagnostics
  split
  · rfl
  · simp only
    cases runDiags (sortDiags ds) (build fc (filtersOf entries)).instrs.reverse [] <;> rfl

theorem exec_forall (P : Config → Prop) (is : List Instr) (s s' : List Config) (h : exec is s = some s')
    (hs : ∀ c ∈ s, P c) (hp : ∀ c b, Instr.push c b ∈ is → P c) : ∀ c ∈ s', P c := by
  fun_induction exec is s with
  | case1 s => cases h; exact hs
  | case2 c b rest s ih =>
    exact ih h (List.forall_mem_cons.mpr ⟨hp c b List.mem_cons_self, hs⟩) fun c b hm => hp c b (List.mem_cons_of_mem _ hm)
  | case3 => cases h
  | case4 _ rest t s ih =>
    exact ih h (fun x hx => hs x (List.mem_cons_of_mem _ hx)) fun c b hm => hp c b (List.mem_cons_of_mem _ hm)

theorem runDiags_untouched (ds : List Diag) (pending : List Instr) (stack : List Config) (out : List Diag)
    (h : runDiags ds pending stack = some out) (d : Diag) (hd : d ∈ ds)
    (hs : ∀ c ∈ stack, c.lint ≠ d.code) (hp : ∀ c b, Instr.push c b ∈ pending → c.lint ≠ d.code) :
    d ∈ out := by
  induction ds generalizing pending stack out with
  | nil => cases hd
  | cons e rest ih =>
    rw [runDiags_cons] at h
    obtain ⟨stack', hr, h⟩ := Option.bind_eq_some_iff.mp h
    obtain ⟨out', hrest, rfl⟩ := Option.map_eq_some_iff.mp h
    have hs' := exec_forall (·.lint ≠ d.code) _ _ _ hr hs
      fun c b hm => hp c b ((List.takeWhile_sublist _).subset hm)
    rcases List.mem_cons.mp hd with rfl | he
    · rw [decide1_unmatched stack' d hs']
      exact List.mem_cons_self
    · exact List.mem_append_right _
        (ih _ _ _ hrest he hs' fun c b hm => hp c b ((List.dropWhile_sublist _).subset hm))

theorem insertSorted_perm (d : Diag) (l : List Diag) : (insertSorted d l).Perm (d :: l) := by
  induction l with
  | nil => exact .refl _
  | cons x rest ih =>
    rw [insertSorted]
    split
    · exact .refl _
    · exact (ih.cons x).trans (.swap d x rest)

theorem sortDiags_perm (ds : List Diag) : (sortDiags ds).Perm ds := by
  induction ds with
  | nil => exact .refl _
  | cons d rest ih => exact (insertSorted_perm d _).trans (ih.cons d)

theorem insertSorted_sorted (d : Diag) (l : List Diag) (h : l.Pairwise fun d e => d.start ≤ e.start) :
    (insertSorted d l).Pairwise fun d e => d.start ≤ e.start := by
  induction l with
  | nil => exact List.pairwise_singleton _ _
  | cons e rest ih =>
    obtain ⟨he, hr⟩ := List.pairwise_cons.mp h
    rw [insertSorted]
    split
    · next hle =>
      exact List.pairwise_cons.mpr ⟨List.forall_mem_cons.mpr ⟨hle, fun x hx => Nat.le_trans hle (he x hx)⟩, h⟩
    · next hle =>
      refine List.pairwise_cons.mpr ⟨fun x hx => ?_, ih hr⟩
      rcases List.mem_cons.mp ((insertSorted_perm d rest).mem_iff.mp hx) with rfl | hx
      · exact Nat.le_of_not_le hle
      · exact he x hx

theorem sortDiags_sorted (ds : List Diag) : (sortDiags ds).Pairwise fun d e => d.start ≤ e.start := by
  induction ds with
  | nil => exact List.Pairwise.nil
  | cons d rest ih => exact insertSorted_sorted d _ ih

theorem mem_insertInstr (is : List Instr) (x : Nat) (new i : Instr) : i ∈ insertInstr is x new ↔ i = new ∨ i ∈ is := by
  induction is with
  | nil => exact List.mem_cons
  | cons j rest ih =>
    rw [insertInstr]
    split
    · exact List.mem_cons
    · rw [List.mem_cons, ih, List.mem_cons, or_left_comm]

theorem build_instrs_eq (fc : Option Nat) (fs : List Filter) :
    (build fc fs).instrs = (fs.filter fun f => !f.cfg.global).foldl instrStep [] ++
      (fs.filter (Spec.acceptedGlobal fc)).map fun g => Instr.push g.cfg 0 := by
  show (fs.foldl (buildStep fc) {}).instrs ++ _ = _
  rw [foldl_buildStep_instrs, foldl_buildStep_globals]
  rfl

theorem build_configs (fc : Option Nat) (fs : List Filter) (c : Config) (b : Nat)
    (h : Instr.push c b ∈ (build fc fs).instrs) : ∃ f ∈ fs, f.cfg = c := by
  simp only [build_instrs_eq, List.mem_append, List.mem_map] at h
  rcases h with h | ⟨g, hg, e⟩
  · refine List.foldlRecOn (motive := fun is => Instr.push c b ∈ is → ∃ f ∈ fs, f.cfg = c) _ instrStep
      (fun h => absurd h List.not_mem_nil) (fun is ih f hf h => ?_) h
    simp only [instrStep, mem_insertInstr] at h
    rcases h with h | h | h
    · injection h with h
      exact ⟨f, (List.mem_filter.mp hf).1, h.symm⟩
    · cases h
    · exact ih h
  · injection e with e
    exact ⟨g, (List.mem_filter.mp hg).1, e⟩

end Selene.Filter
