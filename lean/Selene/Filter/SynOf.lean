/-
From the node sequence the real `NodeVisitor` produced to the syntax tree of `Visitor.lean`: executable
reconstruction (used by the driver on every program) and the lemmas that make `C08_visitor` apply to it.
-/
import Selene.Filter.VisitorProof
namespace Selene.Filter

/-- the leading comments of the token at `a`: those of the first node that starts there -/
def triviaOf (nodes : List NodeInfo) (a : Nat) : List Comment :=
  match nodes.find? (fun n => n.start == a) with
  | some n => n.leading
  | none => []

/-- read the nodes whose spans lie inside `[lo, hi]` off the front of the list as siblings, each with the
    nodes inside its span as its subtree -/
def parseSyn : Nat → Nat → Nat → List NodeInfo → SynList × List NodeInfo
  | 0, _, _, ns => (.nil, ns)
  | _ + 1, _, _, [] => (.nil, [])
  | fuel + 1, lo, hi, n :: rest =>
    if lo ≤ n.start ∧ n.start ≤ n.stop ∧ n.stop ≤ hi then
      let (kids, rest1) := parseSyn fuel n.start n.stop rest
      let (sibs, rest2) := parseSyn fuel n.stop hi rest1
      (.cons (.node n.isBlock n.start n.stop kids) sibs, rest2)
    else (.nil, n :: rest)

/-- nodes without comments in front of them play no part in `get_filter_ranges` -/
def withComments (nodes : List NodeInfo) : List NodeInfo := nodes.filter fun n => !n.leading.isEmpty

def nodupB : List (Nat × Nat) → Bool
  | [] => true
  | x :: xs => !xs.contains x && nodupB xs

theorem nodupB_sound : ∀ (l : List (Nat × Nat)), nodupB l = true → l.Nodup
  | [], _ => List.nodup_nil
  | x :: xs, h => by
    simp only [nodupB, Bool.and_eq_true, Bool.not_eq_true', List.contains_eq_mem, decide_eq_false_iff_not] at h
    exact List.nodup_cons.mpr ⟨h.1, nodupB_sound xs h.2⟩

/-- executable form of `TriviaOK (triviaOf ns)` -/
def triviaOKb (ns : List NodeInfo) : Bool :=
  let starts := ns.map (·.start)
  starts.all (fun a => nodupB ((triviaOf ns a).map Comment.range)) &&
    starts.all fun a => starts.all fun a' =>
      a == a' || (triviaOf ns a).all fun c => (triviaOf ns a').all fun c' => c.range != c'.range

theorem triviaOf_outside (ns : List NodeInfo) (a : Nat) (h : a ∉ ns.map (·.start)) : triviaOf ns a = [] := by
  unfold triviaOf
  rw [List.find?_eq_none.mpr fun n hn e => h (List.mem_map.mpr ⟨n, hn, eq_of_beq e⟩)]

theorem triviaOKb_sound (ns : List NodeInfo) (h : triviaOKb ns = true) : TriviaOK (triviaOf ns) := by
  simp only [triviaOKb, Bool.and_eq_true, List.all_eq_true, Bool.or_eq_true, beq_iff_eq, bne_iff_ne] at h
  obtain ⟨h1, h2⟩ := h
  have hstart : ∀ a c, c ∈ triviaOf ns a → a ∈ ns.map (·.start) := fun a c hc =>
    Decidable.by_contra fun ha => by rw [triviaOf_outside ns a ha] at hc; cases hc
  constructor
  · intro a a' c c' hne hc hc'
    exact (h2 a (hstart a c hc) a' (hstart a' c' hc')).elim (absurd · hne) fun hall => hall c hc c' hc'
  · intro a
    by_cases ha : a ∈ ns.map (·.start)
    · exact nodupB_sound _ (h1 a ha)
    · rw [triviaOf_outside ns a ha]; exact List.nodup_nil

theorem claim_withComments (lintExists : String → Bool) (nodes : List NodeInfo) (ch : List (Nat × Nat)) :
    claim lintExists (withComments nodes) ch = claim lintExists nodes ch := by
  induction nodes generalizing ch with
  | nil => rfl
  | cons n rest ih =>
    obtain ⟨ib, a, b, l⟩ := n
    cases l with
    | nil =>
      refine (ih ch).trans ?_
      cases ib
      · exact congrArg (claim lintExists rest) (List.append_nil ch).symm
      · rfl
    | cons c cs =>
      show claim lintExists (_ :: withComments rest) ch = _
      rw [claim_cons, claim_cons, ih, ih]

/-- the syntax tree behind a node sequence, if the sequence is the pre-order of a well-formed one -/
def synOf (nodes : List NodeInfo) : Option (SynList × Nat) :=
  let ns := withComments nodes
  let hi := ns.foldl (fun m n => max m n.stop) 0
  let (L, rest) := parseSyn (ns.length + 1) 0 hi ns
  if rest.isEmpty && L.wf (triviaOf ns) 0 false hi && triviaOKb ns && L.preorder (triviaOf ns) == ns then some (L, hi)
  else none

theorem synOf_sound (nodes : List NodeInfo) (L : SynList) (hi : Nat) (h : synOf nodes = some (L, hi)) :
    L.wf (triviaOf (withComments nodes)) 0 false hi = true ∧ TriviaOK (triviaOf (withComments nodes)) ∧
      L.preorder (triviaOf (withComments nodes)) = withComments nodes := by
  unfold synOf at h
  simp only at h
  obtain ⟨hc, e⟩ := Option.ite_some_none_eq_some.mp h
  simp only [Bool.and_eq_true, beq_iff_eq] at hc
  cases e
  exact ⟨hc.1.1.2, triviaOKb_sound _ hc.1.2, hc.2⟩

end Selene.Filter
