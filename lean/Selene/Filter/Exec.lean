/-
The lazy replay of `filter_diagnostics` as a function of the instruction list: over diagnostics in ascending
order, each is decided on the stack that the instructions up to its position leave (`runDiags_eq`).
-/
import Selene.Filter.Spec
namespace Selene.Filter

/-- `none` = `Pop` on an empty stack -/
def exec : List Instr → List Config → Option (List Config)
  | [], s => some s
  | .push c _ :: rest, s => exec rest (c :: s)
  | .pop _ :: rest, s =>
    match s with
    | [] => none
    | _ :: s' => exec rest s'

theorem exec_append (a b : List Instr) (s : List Config) :
    exec (a ++ b) s = (exec a s).bind (exec b) := by
  fun_induction exec a s with
  | case1 => rfl
  | case2 _ _ _ _ ih => exact ih
  | case3 => rfl
  | case4 _ _ _ _ ih => exact ih

theorem exec_pushes {α} (l : List α) (f : α → Config) (b : Nat) (s : List Config) :
    exec (l.reverse.map fun x => Instr.push (f x) b) s = some (l.map f ++ s) := by
  induction l generalizing s with
  | nil => rfl
  | cons x rest ih =>
    rw [List.reverse_cons, List.map_append, exec_append, ih]
    rfl

def upTo (p : Nat) (i : Instr) : Bool := i.bytes ≤ p

@[simp] theorem upTo_eq_true {p : Nat} {i : Instr} : upTo p i = true ↔ i.bytes ≤ p := decide_eq_true_iff

theorem runPending_eq (pending : List Instr) (stack : List Config) (p : Nat) :
    runPending pending stack p =
      (exec (pending.takeWhile (upTo p)) stack).map fun s => (pending.dropWhile (upTo p), s) := by
  induction pending generalizing stack with
  | nil => rfl
  | cons i rest ih =>
    rw [List.takeWhile_cons, List.dropWhile_cons]
    by_cases h : i.bytes ≤ p
    · rw [show upTo p i = true from decide_eq_true h]
      cases i with
      | push c x => exact (if_pos h).trans (ih _)
      | pop x =>
        cases stack with
        | nil => exact if_pos h
        | cons t s' => exact (if_pos h).trans (ih _)
    · rw [show upTo p i = false from decide_eq_false h]
      exact if_neg h

theorem runDiags_cons (d : Diag) (ds : List Diag) (pending : List Instr) (stack : List Config) :
    runDiags (d :: ds) pending stack =
      (exec (pending.takeWhile (upTo d.start)) stack).bind fun s =>
        (runDiags ds (pending.dropWhile (upTo d.start)) s).map fun out => (decide1 s d).toList ++ out := by
  rw [runDiags, runPending_eq]
  cases exec (pending.takeWhile (upTo d.start)) stack with
  | none => rfl
  | some s =>
    simp only [Option.map_some, Option.bind_some]
    cases runDiags ds (pending.dropWhile (upTo d.start)) s <;> rfl

theorem takeWhile_upTo_le (X : List Instr) {p q : Nat} (h : p ≤ q) :
    X.takeWhile (upTo q) = X.takeWhile (upTo p) ++ (X.dropWhile (upTo p)).takeWhile (upTo q) := by
  rw [← List.takeWhile_append_of_pos (l₁ := X.takeWhile (upTo p)) fun i hi =>
    upTo_eq_true.mpr (Nat.le_trans (upTo_eq_true.mp (List.all_eq_true.mp List.all_takeWhile i hi)) h),
    List.takeWhile_append_dropWhile]

theorem runDiags_eq (X : List Instr) (s₀ : List Config) (σ : Nat → List Config) (ds : List Diag)
    (hs : ds.Pairwise fun d e => d.start ≤ e.start)
    (hσ : ∀ d ∈ ds, exec (X.takeWhile (upTo d.start)) s₀ = some (σ d.start)) :
    runDiags ds X s₀ = some (ds.filterMap fun d => decide1 (σ d.start) d) := by
  induction ds generalizing X s₀ with
  | nil => rfl
  | cons d rest ih =>
    obtain ⟨hd, hs⟩ := List.pairwise_cons.mp hs
    have hrun := hσ d List.mem_cons_self
    rw [runDiags_cons, hrun, Option.bind_some, ih _ _ hs fun e he => ?_, List.filterMap_cons]
    · cases decide1 (σ d.start) d <;> rfl
    · have hrun' := hσ e (List.mem_cons_of_mem _ he)
      rwa [takeWhile_upTo_le X (hd e he), exec_append, hrun] at hrun'

end Selene.Filter
