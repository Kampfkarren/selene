/-
`get_filter_ranges` over a well-formed syntax tree yields the pre-order of a well-formed forest.
-/
import Selene.Filter.Visitor
namespace Selene.Filter

/-- the comments a node is the first to look at -/
def freshOf (n : NodeInfo) (checked : List (Nat × Nat)) : List Comment :=
  (n.leading.filter fun c => !checked.contains (c.start, c.stop)).foldl
    (fun acc c => if acc.any (fun d => d.start = c.start ∧ d.stop = c.stop) then acc else acc ++ [c]) []

theorem claim_cons (lintExists : String → Bool) (n : NodeInfo) (rest : List NodeInfo) (checked : List (Nat × Nat)) :
    claim lintExists (n :: rest) checked =
      if n.isBlock then claim lintExists rest checked
      else (cfgsOf (freshOf n checked)).map (entryOf lintExists n.start n.stop) ++
        claim lintExists rest (checked ++ (freshOf n checked).map Comment.range) := by
  rw [claim]
  refine congrArg (ite _ _) (congrArg (· ++ _) ?_)
  unfold cfgsOf
  -- not `congr`: it tries `rfl` first, which unfolds `parseComment line` down to a string literal
  rw [List.map_flatMap]
  refine congrArg (List.flatMap · _) (funext fun c => ?_)
  rw [List.map_flatMap]
  refine congrArg (List.flatMap · _) (funext fun line => ?_)
  cases parseComment line with
  | none => rfl
  | some cfgs => simp only [List.map_map]; rfl

/-- `comments_checked` after a sequence of nodes -/
def claimState : List NodeInfo → List (Nat × Nat) → List (Nat × Nat)
  | [], ch => ch
  | n :: rest, ch =>
    if n.isBlock then claimState rest ch else claimState rest (ch ++ (freshOf n ch).map Comment.range)

theorem claim_append (lintExists : String → Bool) (xs ys : List NodeInfo) (ch : List (Nat × Nat)) :
    claim lintExists (xs ++ ys) ch = claim lintExists xs ch ++ claim lintExists ys (claimState xs ch) := by
  induction xs generalizing ch with
  | nil => rfl
  | cons n rest ih =>
    rw [List.cons_append, claim_cons, claim_cons, claimState]
    split
    · exact ih ch
    · rw [ih, List.append_assoc]

theorem claimState_append (xs ys : List NodeInfo) (ch : List (Nat × Nat)) :
    claimState (xs ++ ys) ch = claimState ys (claimState xs ch) := by
  induction xs generalizing ch with
  | nil => rfl
  | cons n rest ih =>
    simp only [List.cons_append, claimState]
    split <;> exact ih _

theorem dedup_id (l acc : List Comment) (hnd : ((acc ++ l).map Comment.range).Nodup) :
    l.foldl (fun acc c => if acc.any (fun d => d.start = c.start ∧ d.stop = c.stop) then acc else acc ++ [c]) acc
      = acc ++ l := by
  induction l generalizing acc with
  | nil => exact (List.append_nil acc).symm
  | cons c rest ih =>
    have hno : acc.any (fun d => decide (d.start = c.start ∧ d.stop = c.stop)) = false :=
      List.any_eq_false.mpr fun d hd h => by
        obtain ⟨h1, h2⟩ := of_decide_eq_true h
        rw [List.map_append, List.nodup_append] at hnd
        exact hnd.2.2 _ (List.mem_map_of_mem hd) _ (List.mem_map_of_mem List.mem_cons_self) (Prod.ext h1 h2)
    rw [List.foldl_cons, hno, if_neg Bool.false_ne_true, ih (acc ++ [c]) (by rwa [List.append_assoc]), List.append_assoc]
    rfl

section
variable (trivia : Nat → List Comment) (lintExists : String → Bool)

theorem mem_rangesOf (cl : List Nat) (r : Nat × Nat) :
    r ∈ rangesOf trivia cl ↔ ∃ s ∈ cl, ∃ c ∈ trivia s, c.range = r := by
  simp only [rangesOf, List.mem_flatMap, List.mem_map]

theorem rangesOf_append (cl : List Nat) (a : Nat) :
    rangesOf trivia (cl ++ [a]) = rangesOf trivia cl ++ (trivia a).map Comment.range := by
  simp [rangesOf]

theorem freshOf_node (hok : TriviaOK trivia) (ib : Bool) (a b : Nat) (cl : List Nat) :
    freshOf { isBlock := ib, start := a, stop := b, leading := trivia a } (rangesOf trivia cl) =
      if cl.contains a then [] else trivia a := by
  unfold freshOf
  split
  · next h =>
    rw [List.filter_eq_nil_iff.mpr fun c hc => ?_]
    · rfl
    · have : (c.start, c.stop) ∈ rangesOf trivia cl :=
        (mem_rangesOf trivia cl _).mpr ⟨a, List.contains_iff_mem.mp h, c, hc, rfl⟩
      simpa using this
  · next h =>
    rw [List.filter_eq_self.mpr fun c hc => ?_, dedup_id _ [] (hok.nodup a)]
    · rfl
    · have : (c.start, c.stop) ∉ rangesOf trivia cl := fun hin => by
        obtain ⟨s, hs, c', hc', heq⟩ := (mem_rangesOf trivia cl _).mp hin
        exact hok.apart s a c' c (fun e => h (List.contains_iff_mem.mpr (e ▸ hs))) hc' hc heq
      simpa using this

theorem claim_node (hok : TriviaOK trivia) (ib : Bool) (a b : Nat) (rest : List NodeInfo) (cl : List Nat) :
    claim lintExists ({ isBlock := ib, start := a, stop := b, leading := trivia a } :: rest) (rangesOf trivia cl) =
      (if (ib || cl.contains a) = true then [] else (cfgsOf (trivia a)).map (entryOf lintExists a b)) ++
        claim lintExists rest (rangesOf trivia (if (ib || cl.contains a) = true then cl else cl ++ [a])) ∧
    claimState ({ isBlock := ib, start := a, stop := b, leading := trivia a } :: rest) (rangesOf trivia cl) =
      claimState rest (rangesOf trivia (if (ib || cl.contains a) = true then cl else cl ++ [a])) := by
  rw [claim_cons, claimState, freshOf_node trivia hok]
  cases ib
  · cases cl.contains a
    · simp only [Bool.false_or, Bool.false_eq_true, if_false, rangesOf_append, and_self]
    · exact ⟨congrArg (claim lintExists rest) (List.append_nil _), congrArg (claimState rest) (List.append_nil _)⟩
  · exact ⟨rfl, rfl⟩

theorem Forest.filters_append : ∀ (f g : Forest), (f.append g).filters = f.filters ++ g.filters
  | .nil, g => rfl
  | .cons t r, g => by simp [Forest.append, Forest.filters, Forest.filters_append r g]

/-- the inline filters among what the visitor records -/
def inlineOf (entries : List RangeEntry) : List Filter := (filtersOf entries).filter fun f => !f.cfg.global

theorem inlineOf_append (xs ys : List RangeEntry) : inlineOf (xs ++ ys) = inlineOf xs ++ inlineOf ys := by
  simp [inlineOf, filtersOf]

theorem own_entries (a b : Nat) (cs : List Comment) :
    inlineOf ((cfgsOf cs).map (entryOf lintExists a b)) =
      (ownOf lintExists cs).map fun c => ({ cfg := c.1, commentRange := c.2, range := (a, b) } : Filter) := by
  rw [inlineOf, filtersOf, List.filterMap_map, List.filter_filterMap, ownOf, ← List.filterMap_eq_map,
    List.filterMap_filter]
  congr 1; funext ⟨⟨g, lint, sev⟩, r⟩
  simp only [Function.comp, entryOf]
  cases lintExists lint
  · rfl
  · cases g <;> rfl

theorem Syn.start_le_stop (s : Syn) (hi : Nat) (h : s.wf trivia hi = true) : s.start ≤ s.stop ∧ s.stop ≤ hi := by
  cases s with
  | node ib a b kids =>
    simp only [Syn.wf, Bool.and_eq_true, decide_eq_true_eq] at h
    exact ⟨h.1.1, h.1.2⟩

mutual
theorem Syn.claim_forest (hok : TriviaOK trivia) (s : Syn) (hi : Nat) (cl : List Nat) (h : s.wf trivia hi = true) :
    inlineOf (claim lintExists (s.preorder trivia) (rangesOf trivia cl)) = (s.forest trivia lintExists cl).filters ∧
      claimState (s.preorder trivia) (rangesOf trivia cl) = rangesOf trivia (s.after cl) := by
  cases s with
  | node ib a b kids =>
    simp only [Syn.wf, Bool.and_eq_true, decide_eq_true_eq] at h
    obtain ⟨⟨hab, _⟩, hk⟩ := h
    obtain ⟨e1, e2⟩ := claim_node trivia lintExists hok ib a b (kids.preorder trivia) cl
    have ih := SynList.claim_forest hok kids a false b (if (ib || cl.contains a) = true then cl else cl ++ [a]) hk
    simp only [Syn.preorder, Syn.after, Syn.forest]
    refine ⟨?_, e2.trans ih.2⟩
    rw [e1, inlineOf_append, ih.1]
    by_cases hdead : (ib || cl.contains a) = true
    · simp only [hdead, if_true, List.isEmpty_nil]
      rfl
    · simp only [hdead, Bool.false_eq_true, if_false]
      rw [own_entries]
      cases ownOf lintExists (trivia a) with
      | nil => rfl
      | cons p ps =>
        simp only [List.isEmpty_cons, Bool.false_eq_true, if_false]
        by_cases hlt : a < b
        · rw [if_pos hlt]
          exact (List.append_nil _).symm
        · cases Nat.le_antisymm hab (Nat.le_of_not_lt hlt)
          rw [if_neg hlt]
          rfl
theorem SynList.claim_forest (hok : TriviaOK trivia) (L : SynList) (prev : Nat) (strict : Bool) (hi : Nat) (cl : List Nat)
    (h : L.wf trivia prev strict hi = true) :
    inlineOf (claim lintExists (L.preorder trivia) (rangesOf trivia cl)) = (L.forest trivia lintExists cl).filters ∧
      claimState (L.preorder trivia) (rangesOf trivia cl) = rangesOf trivia (L.after cl) := by
  cases L with
  | nil => exact ⟨rfl, rfl⟩
  | cons s rest =>
    simp only [SynList.wf, Bool.and_eq_true] at h
    obtain ⟨⟨_, hs⟩, hr⟩ := h
    have h1 := Syn.claim_forest hok s hi cl hs
    have h2 := SynList.claim_forest hok rest s.stop true hi (s.after cl) hr
    simp only [SynList.preorder, SynList.after, SynList.forest, claim_append, claimState_append, inlineOf_append,
      Forest.filters_append, h1.1, h1.2, h2.1, h2.2]
    trivial
end

theorem Forest.WF_append : ∀ (f g : Forest) (lo m hi : Nat), f.WF lo m → g.WF (m + 1) hi → m ≤ hi →
    lo ≤ m + 1 → (f.append g).WF lo hi
  | .nil, g, lo, m, hi, _, hg, _, hlo => Forest.WF_mono g _ hi lo hg hlo
  | .cons t r, g, lo, m, hi, hf, hg, hm, _ => by
    have hstop : t.stop ≤ m := (Tree.start_le_stop t lo m hf.1).2.2
    exact ⟨Tree.WF_mono t lo m lo hi hf.1 (Nat.le_refl _) hm,
      Forest.WF_append r g (t.stop + 1) m hi hf.2 hg hm (Nat.succ_le_succ hstop)⟩

/-- nothing is left to look at in front of the token at `a` -/
def Dead (cl : List Nat) (a : Nat) : Prop := a ∈ cl ∨ trivia a = []

/-- no piece of the subtree of a node starting at `a` starts before `LO`.  `a` may be one byte short of `LO` (a first
    child on its parent's token, a sibling where its predecessor ends) if nothing is left to claim there. -/
def Low (LO : Nat) (cl : List Nat) (a : Nat) : Prop := LO ≤ a ∨ (LO ≤ a + 1 ∧ Dead trivia cl a)

theorem Low.le_succ {trivia : Nat → List Comment} {LO a : Nat} {cl : List Nat} (h : Low trivia LO cl a) : LO ≤ a + 1 :=
  h.elim Nat.le_succ_of_le And.left

mutual
theorem Syn.after_mono (s : Syn) (cl : List Nat) : ∀ x ∈ cl, x ∈ s.after cl := by
  cases s with
  | node ib a b kids =>
    intro x hx
    refine SynList.after_mono kids _ x ?_
    split
    · exact hx
    · exact List.mem_append_left _ hx
theorem SynList.after_mono (L : SynList) (cl : List Nat) : ∀ x ∈ cl, x ∈ L.after cl := by
  cases L with
  | nil => exact fun x hx => hx
  | cons s rest => exact fun x hx => SynList.after_mono rest _ x (Syn.after_mono s cl x hx)
end

theorem ownOf_nil : ownOf lintExists [] = [] := rfl

theorem ownOf_nonglobal (cs : List Comment) : ∀ c ∈ ownOf lintExists cs, c.1.global = false := by
  intro c hc
  simp only [ownOf, List.mem_filter, Bool.and_eq_true, Bool.not_eq_true'] at hc
  exact hc.2.2

mutual
theorem Syn.forest_WF (s : Syn) (hi LO : Nat) (cl : List Nat) (h : s.wf trivia hi = true)
    (hl : Low trivia LO cl s.start) : (s.forest trivia lintExists cl).WF LO s.stop := by
  cases s with
  | node ib a b kids =>
    simp only [Syn.wf, Bool.and_eq_true, decide_eq_true_eq] at h
    obtain ⟨⟨hab, _⟩, hk⟩ := h
    have hl : Low trivia LO cl a := hl
    simp only [Syn.stop, Syn.forest]
    by_cases hdead : (ib || cl.contains a) = true
    · simp only [hdead, if_true, List.isEmpty_nil]
      exact SynList.forest_WF kids a false b LO cl hk (Or.inl hl)
    · simp only [hdead, Bool.false_eq_true, if_false]
      have hseen : Dead trivia (cl ++ [a]) a := Or.inl (List.mem_append_right _ List.mem_cons_self)
      have hch : (kids.forest trivia lintExists (cl ++ [a])).WF (a + 1) b :=
        SynList.forest_WF kids a false b (a + 1) (cl ++ [a]) hk (Or.inl (Or.inr ⟨Nat.le_refl _, hseen⟩))
      cases hown : ownOf lintExists (trivia a) with
      | nil =>
        simp only [List.isEmpty_nil, if_true]
        exact Forest.WF_mono _ _ _ LO hch hl.le_succ
      | cons p ps =>
        have hLO : LO ≤ a := by
          rcases hl with hl | ⟨_, hin | hnil⟩
          · exact hl
          · exact absurd (by simp [hin]) hdead
          · rw [hnil, ownOf_nil] at hown; cases hown
        have hng : ∀ c ∈ p :: ps, c.1.global = false := hown ▸ ownOf_nonglobal lintExists _
        simp only [List.isEmpty_cons, Bool.false_eq_true, if_false]
        by_cases hlt : a < b
        · simp only [hlt, if_true]
          exact ⟨⟨hLO, hlt, Nat.le_refl _, List.cons_ne_nil _ _, hng, hch⟩, trivial⟩
        · cases Nat.le_antisymm hab (Nat.le_of_not_lt hlt)
          rw [if_neg hlt, Forest.WF_empty _ _ _ hch (Nat.lt_succ_self a)]
          exact ⟨⟨hLO, Nat.le_refl _, List.cons_ne_nil _ _, hng⟩, trivial⟩
theorem SynList.forest_WF (L : SynList) (prev : Nat) (strict : Bool) (hi LO : Nat) (cl : List Nat)
    (h : L.wf trivia prev strict hi = true) (hl : Low trivia LO cl prev ∨ (strict = true ∧ LO ≤ prev + 1)) :
    (L.forest trivia lintExists cl).WF LO hi := by
  cases L with
  | nil => trivial
  | cons s rest =>
    simp only [SynList.wf, Bool.and_eq_true, decide_eq_true_eq, Bool.or_eq_true, Bool.not_eq_true',
      List.isEmpty_iff] at h
    obtain ⟨⟨⟨hp, hst⟩, hs⟩, hr⟩ := h
    obtain ⟨hss, hshi⟩ := Syn.start_le_stop trivia s hi hs
    have hLO : LO ≤ prev + 1 := hl.elim Low.le_succ And.right
    have hlow : Low trivia LO cl s.start := by
      rcases Nat.eq_or_lt_of_le hp with rfl | hlt
      · rcases hl with hl | ⟨hstrict, _⟩
        · exact hl
        · rcases hst with (hns | hnil) | hlt
          · rw [hstrict] at hns; cases hns
          · exact Or.inr ⟨hLO, Or.inr hnil⟩
          · exact absurd hlt (Nat.lt_irrefl _)
      · exact Or.inl (Nat.le_trans hLO hlt)
    have h1 := Syn.forest_WF s hi LO cl hs hlow
    have h2 := SynList.forest_WF rest s.stop true hi (s.stop + 1) (s.after cl) hr (Or.inr ⟨rfl, Nat.le_refl _⟩)
    exact Forest.WF_append _ _ LO s.stop hi h1 h2 hshi (by omega)
end

theorem Syn.forest_dead (s : Syn) (hi a : Nat) (cl : List Nat) (h : s.wf trivia hi = true) (hhi : hi ≤ a)
    (ha : a ≤ s.start) (hd : Dead trivia cl a) : s.forest trivia lintExists cl = .nil := by
  obtain ⟨hss, hshi⟩ := Syn.start_le_stop trivia s hi h
  have hstop : s.stop ≤ a := Nat.le_trans hshi hhi
  cases Nat.le_antisymm ha (Nat.le_trans hss hstop)
  exact Forest.WF_empty _ _ _ (Syn.forest_WF trivia lintExists s hi (s.start + 1) cl h (Or.inr ⟨Nat.le_refl _, hd⟩))
    (Nat.lt_succ_of_le hstop)

end

end Selene.Filter
