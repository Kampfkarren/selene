/- The replay on the list `build` makes and the specification's verdict meet in `Forest.active`. -/
import Selene.Filter.SpecForest
import Selene.Filter.Lemmas
namespace Selene.Filter
open Spec

variable (fc : Option Nat) (fs : List Filter) (F : Forest) (hi : Nat)
  (hF : fs.filter (fun f => !f.cfg.global) = F.filters) (hwf : F.WF 0 hi)
include hF hwf

theorem build_exec_prefix (p : Nat) :
    exec ((build fc fs).instrs.reverse.takeWhile (upTo p)) [] =
      some (F.active p ++ (fs.filter (acceptedGlobal fc)).map (·.cfg)) := by
  have hinstr : (build fc fs).instrs.reverse =
      ((fs.filter (acceptedGlobal fc)).reverse.map fun g => Instr.push g.cfg 0) ++ F.instrs := by
    have := Forest.build_instrs F 0 hi hwf [] [] (List.forall_mem_nil _) (List.forall_mem_nil _)
    rw [List.append_nil, List.nil_append, List.append_nil] at this
    rw [build_instrs_eq, hF, this, List.reverse_append, List.reverse_reverse, List.map_reverse]
  rw [hinstr, List.takeWhile_append_of_pos (List.forall_mem_map.mpr fun _ _ => upTo_eq_true.mpr (Nat.zero_le p)),
    exec_append, exec_pushes _ (fun g : Filter => g.cfg) 0, List.append_nil]
  exact Forest.exec_prefix F 0 hi p hwf _

theorem decide1_active (d : Diag) :
    decide1 (F.active d.start ++ (fs.filter (acceptedGlobal fc)).map (·.cfg)) d = Spec.verdict fs fc d := by
  have hcov : fs.filter (fun f => covers f d) = cov d F.filters := by
    rw [← hF, cov, List.filter_filter]
    exact List.filter_congr fun f _ => by rw [covers]; cases f.cfg.global <;> simp
  unfold Spec.verdict
  -- below the inline filters, both sides come to `fs.find?` of an accepted global filter for the lint
  rw [decide1_eq, hcov, List.find?_append, ← Forest.spec_active F 0 hi hwf d, List.find?_map, List.find?_filter,
    List.head?_filter]
  simp only [Function.comp_def, Bool.decide_and, Bool.decide_eq_true]
  cases innermost (cov d F.filters) with
  | some f => rfl
  | none => cases fs.find? (fun f => acceptedGlobal fc f && decide (f.cfg.lint = d.code)) <;> rfl

/-- **the push/pop machine = innermost covering filter wins**, on the instruction list `build` makes of a family
whose inline members are the filters of a well-formed forest -/
theorem runDiags_build (ds : List Diag) :
    runDiags (sortDiags ds) (build fc fs).instrs.reverse [] =
      some ((sortDiags ds).filterMap (Spec.verdict fs fc)) := by
  rw [runDiags_eq _ [] (fun p => F.active p ++ (fs.filter (acceptedGlobal fc)).map (·.cfg)) _ (sortDiags_sorted ds)
    fun d _ => build_exec_prefix fc fs F hi hF hwf d.start]
  simp only [decide1_active fc fs F hi hF hwf]

end Selene.Filter
