/-
`roblox_incorrect_roact_usage.rs`: properties and events passed to `Roact.createElement` / `React.createElement`
(or to a local that was initialised with one of them) that the named Roblox class does not have.

The lint is a `Visitor` with one piece of state — which local *names* stand for `createElement` (a name, not a
variable: the lint knows nothing of scopes) — filled at `local` statements and read at calls, in visit order.  It
collects three lists and reports them one after the other: events, properties, unknown classes.

The lint runs only under a library named `roblox` that has a class table (`enabled`).
-/
import Selene.Lints.TraverseB
import Selene.Std.RobloxClass
namespace Selene.Lints.Roact
open Selene.Lua Selene.LintsB Selene.Std.Roblox

inductive Lib where
  | roact | react
deriving DecidableEq, Repr, Inhabited

def libOfName (n : String) : Option Lib :=
  if n = "Roact" then some .roact else if n = "React" then some .react else none

/-- `is_roact_or_react_create_element`: `Roact.createElement` / `React.createElement`, nothing before or after -/
def isCreateElement (p : Prefix) (ss : List Suffix) : Option Lib :=
  match p, ss with
  | .name t, [.dot _ name] => if name.text = "createElement" then libOfName t.text else none
  | _, _ => none

structure Diag where
  range : Span
  message : String
  notes : List String := []
deriving DecidableEq, Repr, Inhabited

structure St where
  defs : List (String × Lib) := []        -- most recent first (`HashMap::insert` overwrites)
  events : List Diag := []
  properties : List Diag := []
  unknown : List Diag := []
deriving Repr, Inhabited

/-- `is_lua_valid_table_key_identifier` on the text of a string token (quotes included): the second character starts an
identifier and the `len - 2` characters after the first are identifier characters, `len` counted in bytes.  The Rust tests
are Unicode-aware (`is_alphabetic`), these are ASCII: a token with a non-ASCII character has more bytes than characters,
so the Rust loop runs on into the closing quote and fails too. -/
def validKeyIdentifier (s : String) : Bool :=
  let cs := s.toList
  match cs[1]? with
  | none => false
  | some first =>
    (first.isAlpha || first = '_') &&
    ((cs.drop 1).take (s.utf8ByteSize - 2)).all fun c => c.isAlphanum || c = '_'

/-- `get_lua_table_key_format`, on the value with its trivia purged: a string that is an identifier is written bare,
anything else in brackets -/
def keyFormat (toks : List String) (value : Expr) : String :=
  match value with
  | .str t _ _ =>
    let s := toks.getD t.idx ""
    if validKeyIdentifier s then String.ofList ((s.toList.drop 1).take (s.length - 2)) else "[" ++ s ++ "]"
  | e => "[" ++ glue toks e.span ++ "]"

/-- the token that closes the bracket opened at token `i` -/
def closingBracket (toks : List String) (i : Nat) : Nat :=
  let rec go (rest : List String) (j depth : Nat) : Nat :=
    match rest with
    | [] => j
    | t :: more =>
      if t = "[" then go more (j + 1) (depth + 1)
      else if t = "]" then (if depth ≤ 1 then j else go more (j + 1) (depth - 1))
      else go more (j + 1) depth
  go (toks.drop i) i 0

/-- the event named by a key `[Roact.Event.X]` (parentheses around the key are looked through; anything after `X` is not
looked at) -/
def eventKey (k : Expr) : Option String :=
  let rec strip : Expr → Expr
    | .paren _ e => strip e
    | e => e
  match strip k with
  | .var (.expr _ (.name lib) ss) =>
    if lib.text = "Roact" ∨ lib.text = "React" then
      match ss.toList with
      | .dot _ ev :: .dot _ name :: _ => if ev.text = "Event" then some name.text else none
      | _ => none
    else none
  | _ => none

/-- one field of the property table -/
def checkField (toks : List String) (cs : Classes) (lib : Lib) (className : String) (cls : Class) (createExpr : String)
    (σ : St) (f : Field) : St :=
  match f with
  | .nameKey _ key value =>
    let prop := key.text
    if lib = .react ∧ (prop = "ref" ∨ prop = "key" ∨ prop = "children") then σ
    else if !hasProperty cs cls prop || prop = "Name" then
      let d : Diag :=
        if prop = "Name" then
          { range := ⟨key.idx, key.idx⟩, message := "`Name` is assigned through the element's key for Roblox instances",
            notes := ["try: " ++ keyFormat toks value ++ " = " ++ createExpr ++ "(...)"] }
        else { range := ⟨key.idx, key.idx⟩, message := "`" ++ prop ++ "` is not a property of `" ++ className ++ "`" }
      { σ with properties := σ.properties ++ [d] }
    else σ
  | .exprKey sp k _ =>
    match eventKey k with
    | some ev =>
      if !hasEvent cs cls ev then
        { σ with events := σ.events ++ [{ range := ⟨sp.first, closingBracket toks sp.first⟩,
                                           message := "`" ++ ev ++ "` is not a valid event for `" ++ className ++ "`" }] }
      else σ
    | none => σ
  | _ => σ

/-- which library's `createElement` a call goes to, and how the callee is written: `e(…)` for a local that stands for it,
`Roact.createElement(…)` itself; `before` = the suffixes in front of the call suffix -/
def targetOf (defs : List (String × Lib)) (p : Prefix) (before : List Suffix) : Option (Lib × String) :=
  match before, p with
  | [], .name n => (defs.find? (·.1 = n.text)).map fun d => (d.2, n.text)
  | [s], .name n => (isCreateElement p [s]).map fun l => (l, n.text ++ ".createElement")
  | _, _ => none

/-- the arguments of a recognised call: a class name, then (if the class is known) a table of properties -/
def checkArgs (toks : List String) (cs : Classes) (σ : St) (lib : Lib) (createExpr : String) (args : List Expr) : St :=
  match args with
  | .str t _ literal :: rest =>
    match get cs literal with
    | none => { σ with unknown := σ.unknown ++ [{ range := ⟨t.idx, t.idx⟩, message := "`" ++ literal ++ "` is not a valid class" }] }
    | some cls =>
      match rest with
      | .tbl _ fields :: _ => fields.toList.foldl (checkField toks cs lib literal cls createExpr) σ
      | _ => σ
  | _ => σ

/-- `visit_function_call` -/
def visitCall (toks : List String) (cs : Classes) (σ : St) (c : FCall) : St :=
  match c with
  | .mk _ p ss =>
    match targetOf σ.defs p ss.toList.dropLast, ss.toList.getLast? with
    | some (lib, createExpr), some (.args _ (.parens _ args)) => checkArgs toks cs σ lib createExpr args.toList
    | _, _ => σ

/-- `visit_local_assignment`: names initialised with `Roact.createElement` / `React.createElement` -/
def visitLocal (σ : St) (names : List Tok) (es : ExprList) : St :=
  (names.zip es.toList).foldl (fun σ (ne : Tok × Expr) =>
    match ne.2 with
    | .var (.expr _ p ss) =>
      match isCreateElement p ss.toList with
      | some lib => { σ with defs := (ne.1.text, lib) :: σ.defs }
      | none => σ
    | _ => σ) σ

def step (toks : List String) (cs : Classes) (σ : St) : Node → St
  | .stmt (.localAssign _ names es) => visitLocal σ names es
  | .call c => visitCall toks cs σ c
  | _ => σ

/-- `pass`: nothing unless the library is named `roblox` and has classes; the three lists one after the other -/
def run (enabled : Bool) (toks : List String) (cs : Classes) (b : Block) : List Diag :=
  if !enabled || cs.isEmpty then []
  else
    let σ := (nBlock b).foldl (step toks cs) {}
    σ.events ++ σ.properties ++ σ.unknown

theorem checkField_events (toks : List String) (cs : Classes) (lib : Lib) (cn : String) (cls : Class) (ce : String) (σ : St) (f : Field)
    (d : Diag) (h : d ∈ (checkField toks cs lib cn cls ce σ f).events) :
    d ∈ σ.events ∨ ∃ sp k v ev, f = .exprKey sp k v ∧ eventKey k = some ev ∧ hasEvent cs cls ev = false ∧ d.range.first = sp.first := by
  cases f with
  | exprKey sp k v =>
    simp only [checkField] at h
    split at h
    · rename_i ev hev
      split at h
      · rename_i hne
        rcases List.mem_append.mp h with h | h
        · exact Or.inl h
        · exact Or.inr ⟨sp, k, v, ev, rfl, hev, by simpa using hne, by rw [List.mem_singleton.mp h]⟩
      · exact Or.inl h
    · exact Or.inl h
  | nameKey sp key value =>
    simp only [checkField, apply_ite St.events, ite_self] at h
    exact Or.inl h
  | noKey v => exact Or.inl h
  | unsupported sp => exact Or.inl h

/-- **An event report names an event the class does not have**: a report added while the fields of a property table are
checked against `cls` sits on a field `[Roact.Event.X] = …` (or `React`) for which no class along the superclass chain of
`cls` has the event `X`.  (`checkArgs` runs this fold with the class the call's first argument names.) -/
theorem fold_events (toks : List String) (cs : Classes) (lib : Lib) (cn : String) (cls : Class) (ce : String) :
    ∀ (fs : List Field) (σ : St) (d : Diag), d ∈ (fs.foldl (checkField toks cs lib cn cls ce) σ).events →
      d ∈ σ.events ∨ ∃ f ∈ fs, ∃ sp k v ev, f = .exprKey sp k v ∧ eventKey k = some ev ∧ hasEvent cs cls ev = false ∧ d.range.first = sp.first :=
  fun fs _ d => List.foldlRecOn fs _ Or.inl fun σ ih f hf h =>
    (checkField_events toks cs lib cn cls ce σ f d h).elim ih fun w => Or.inr ⟨f, hf, w⟩

end Selene.Lints.Roact
