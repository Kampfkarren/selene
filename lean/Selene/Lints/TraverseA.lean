/-
Shared traversal of the expression-level C04 lints (half A).

full_moon's `Visitor` calls `visit_expression` for every `Expression` node, `visit_table_constructor`
for every `TableConstructor` (expression *and* call-argument position), `visit_function_call` for
every `FunctionCall` (expression and statement position) and the per-statement hooks (`visit_if`,
`visit_while`, `visit_repeat`, `visit_numeric_for`) for every statement, all in source pre-order.
`nodesB` (B for block) enumerates exactly these hook invocations for a block; a lint is a function
`Node → List Diag` applied to every node (`runLint`).

`BCtx` is a one-hole statement context: any block position at any nesting depth, through every
block-carrying statement, function statements and function expressions in `local` initialisers.
-/
import Selene.Lua.Ast
namespace Selene.Lints
open Selene.Lua

/-- A diagnostic in token space.  `sub = some (a, b)`: the label lies inside token `primary.first`,
at byte offsets `a … b` from the start of that token (bad_string_escape). -/
structure Diag where
  code : String
  primary : Span
  msg : String := ""
  secondary : List Span := []
  sub : Option (Nat × Nat) := none
deriving DecidableEq, Repr, Inhabited

inductive Node where
  | expr (e : Expr)
  | stmt (s : Stmt)
  | table (sp : Span) (fs : FieldList)
  | call (c : FCall)

mutual
def nodesE : Expr → List Node
  | .nil t => [.expr (.nil t)]
  | .true_ t => [.expr (.true_ t)]
  | .false_ t => [.expr (.false_ t)]
  | .dots t => [.expr (.dots t)]
  | .num t => [.expr (.num t)]
  | .str t q l => [.expr (.str t q l)]
  | .func sp kw body => .expr (.func sp kw body) :: nodesFB body
  | .paren sp e => .expr (.paren sp e) :: nodesE e
  | .un sp op e => .expr (.un sp op e) :: nodesE e
  | .bin sp l op r => .expr (.bin sp l op r) :: (nodesE l ++ nodesE r)
  | .tbl sp fs => .expr (.tbl sp fs) :: .table sp fs :: nodesFL fs
  | .var v => .expr (.var v) :: nodesV v
  | .call c => .expr (.call c) :: nodesC c
  | .unsupported sp => [.expr (.unsupported sp)]
def nodesEL : ExprList → List Node
  | .nil => []
  | .cons e rest => nodesE e ++ nodesEL rest
def nodesV : Var → List Node
  | .name _ => []
  | .expr _ p ss => nodesP p ++ nodesSS ss
def nodesVL : VarList → List Node
  | .nil => []
  | .cons v rest => nodesV v ++ nodesVL rest
def nodesP : Prefix → List Node
  | .name _ => []
  | .expr e => nodesE e
def nodesSf : Suffix → List Node
  | .dot _ _ => []
  | .idx _ e => nodesE e
  | .args _ a => nodesA a
  | .meth _ _ a => nodesA a
  | .unsupported _ => []
def nodesSS : SuffixList → List Node
  | .nil => []
  | .cons s rest => nodesSf s ++ nodesSS rest
def nodesA : Args → List Node
  | .parens _ es => nodesEL es
  | .str _ _ _ => []
  | .tbl sp fs => .table sp fs :: nodesFL fs
def nodesC : FCall → List Node
  | .mk sp p ss => .call (.mk sp p ss) :: (nodesP p ++ nodesSS ss)
def nodesF : Field → List Node
  | .exprKey _ k v => nodesE k ++ nodesE v
  | .nameKey _ _ v => nodesE v
  | .noKey v => nodesE v
  | .unsupported _ => []
def nodesFL : FieldList → List Node
  | .nil => []
  | .cons f rest => nodesF f ++ nodesFL rest
def nodesFB : FuncBody → List Node
  | .mk _ _ b => nodesB b
def nodesS : Stmt → List Node
  | .assign sp vs es => .stmt (.assign sp vs es) :: (nodesVL vs ++ nodesEL es)
  | .localAssign sp ns es => .stmt (.localAssign sp ns es) :: nodesEL es
  | .call c => .stmt (.call c) :: nodesC c
  | .do_ sp b => .stmt (.do_ sp b) :: nodesB b
  | .while_ sp c b => .stmt (.while_ sp c b) :: (nodesE c ++ nodesB b)
  | .repeat_ sp b c => .stmt (.repeat_ sp b c) :: (nodesB b ++ nodesE c)
  | .if_ sp c b elifs els => .stmt (.if_ sp c b elifs els) :: (nodesE c ++ nodesB b ++ nodesEIL elifs ++ nodesOB els)
  | .numFor sp v cm a e st b => .stmt (.numFor sp v cm a e st b) :: (nodesE a ++ nodesE e ++ nodesOE st ++ nodesB b)
  | .genFor sp ns es b => .stmt (.genFor sp ns es b) :: (nodesEL es ++ nodesB b)
  | .func sp n body => .stmt (.func sp n body) :: nodesFB body
  | .localFunc sp n body => .stmt (.localFunc sp n body) :: nodesFB body
  | .unsupported sp => [.stmt (.unsupported sp)]
def nodesSL : StmtList → List Node
  | .nil => []
  | .cons s rest => nodesS s ++ nodesSL rest
def nodesEI : ElseIf → List Node
  | .mk _ c b => nodesE c ++ nodesB b
def nodesEIL : ElseIfList → List Node
  | .nil => []
  | .cons e rest => nodesEI e ++ nodesEIL rest
def nodesOB : OptBlock → List Node
  | .none => []
  | .some b => nodesB b
def nodesOE : OptExpr → List Node
  | .none => []
  | .some e => nodesE e
def nodesLS : LastStmt → List Node
  | .none => []
  | .ret _ es => nodesEL es
  | .brk _ => []
def nodesB : Block → List Node
  | .mk _ stmts last => nodesSL stmts ++ nodesLS last
end

/-- a lint = one hook per visited node -/
def runLint (hook : Node → List Diag) (b : Block) : List Diag := (nodesB b).flatMap hook

theorem mem_runLint {hook : Node → List Diag} {b : Block} {g : Diag} :
    g ∈ runLint hook b ↔ ∃ n ∈ nodesB b, g ∈ hook n :=
  List.mem_flatMap

def StmtList.append : StmtList → StmtList → StmtList
  | .nil, ys => ys
  | .cons s xs, ys => .cons s (StmtList.append xs ys)

def ElseIfList.append : ElseIfList → ElseIfList → ElseIfList
  | .nil, ys => ys
  | .cons s xs, ys => .cons s (ElseIfList.append xs ys)

def ExprList.append : ExprList → ExprList → ExprList
  | .nil, ys => ys
  | .cons s xs, ys => .cons s (ExprList.append xs ys)

/-- a statement with a block-shaped hole -/
inductive SFrame where
  | do_ (sp : Span)
  | while_ (sp : Span) (c : Expr)
  | repeat_ (sp : Span) (c : Expr)
  | ifThen (sp : Span) (c : Expr) (elifs : ElseIfList) (els : OptBlock)
  | ifElif (sp : Span) (c : Expr) (b : Block) (pre : ElseIfList) (esp : Span) (ec : Expr) (post : ElseIfList) (els : OptBlock)
  | ifElse (sp : Span) (c : Expr) (b : Block) (elifs : ElseIfList)
  | numFor (sp : Span) (v cm : Tok) (a e : Expr) (st : OptExpr)
  | genFor (sp : Span) (ns : List Tok) (es : ExprList)
  | func (sp : Span) (n : FuncName) (bsp : Span) (ps : List Param)
  | localFunc (sp : Span) (n : Tok) (bsp : Span) (ps : List Param)
  /-- `local ns = pre…, function(ps) □ end, post…` -/
  | localLambda (sp : Span) (ns : List Tok) (pre : ExprList) (fsp : Span) (kw : Tok) (bsp : Span) (ps : List Param) (post : ExprList)

def SFrame.fill : SFrame → Block → Stmt
  | .do_ sp, h => .do_ sp h
  | .while_ sp c, h => .while_ sp c h
  | .repeat_ sp c, h => .repeat_ sp h c
  | .ifThen sp c elifs els, h => .if_ sp c h elifs els
  | .ifElif sp c b pre esp ec post els, h => .if_ sp c b (ElseIfList.append pre (.cons (.mk esp ec h) post)) els
  | .ifElse sp c b elifs, h => .if_ sp c b elifs (.some h)
  | .numFor sp v cm a e st, h => .numFor sp v cm a e st h
  | .genFor sp ns es, h => .genFor sp ns es h
  | .func sp n bsp ps, h => .func sp n (.mk bsp ps h)
  | .localFunc sp n bsp ps, h => .localFunc sp n (.mk bsp ps h)
  | .localLambda sp ns pre fsp kw bsp ps post, h =>
    .localAssign sp ns (ExprList.append pre (.cons (.func fsp kw (.mk bsp ps h)) post))

/-- a block with a statement-shaped hole, at any depth -/
inductive BCtx where
  | hole (sp : Option Span) (pre post : StmtList) (last : LastStmt)
  | nest (sp : Option Span) (pre : StmtList) (f : SFrame) (inner : BCtx) (post : StmtList) (last : LastStmt)

def BCtx.plug : BCtx → Stmt → Block
  | .hole sp pre post last, s => .mk sp (StmtList.append pre (.cons s post)) last
  | .nest sp pre f inner post last, s => .mk sp (StmtList.append pre (.cons (f.fill (inner.plug s)) post)) last

def BCtx.depth : BCtx → Nat
  | .hole .. => 0
  | .nest _ _ _ inner _ _ => inner.depth + 1

theorem nodesSL_append : (xs ys : StmtList) → nodesSL (StmtList.append xs ys) = nodesSL xs ++ nodesSL ys
  | .nil, _ => rfl
  | .cons s xs, ys => (congrArg (nodesS s ++ ·) (nodesSL_append xs ys)).trans (List.append_assoc ..).symm

theorem nodesEIL_append : (xs ys : ElseIfList) → nodesEIL (ElseIfList.append xs ys) = nodesEIL xs ++ nodesEIL ys
  | .nil, _ => rfl
  | .cons s xs, ys => (congrArg (nodesEI s ++ ·) (nodesEIL_append xs ys)).trans (List.append_assoc ..).symm

theorem nodesEL_append : (xs ys : ExprList) → nodesEL (ExprList.append xs ys) = nodesEL xs ++ nodesEL ys
  | .nil, _ => rfl
  | .cons s xs, ys => (congrArg (nodesE s ++ ·) (nodesEL_append xs ys)).trans (List.append_assoc ..).symm

theorem nodes_fill (f : SFrame) (h : Block) : ∀ n, n ∈ nodesB h → n ∈ nodesS (f.fill h) := by
  intro n hn
  cases f with
  | do_ | func | localFunc => exact .tail _ hn
  | while_ | ifElse | numFor | genFor => exact .tail _ (List.mem_append_right _ hn)
  | repeat_ => exact .tail _ (List.mem_append_left _ hn)
  | ifThen => exact .tail _ (List.mem_append_left _ (List.mem_append_left _ (List.mem_append_right _ hn)))
  | ifElif =>
    refine .tail _ (List.mem_append_left _ (List.mem_append_right _ ?_))
    rw [nodesEIL_append]
    exact List.mem_append_right _ (List.mem_append_left _ (List.mem_append_right _ hn))
  | localLambda =>
    refine .tail _ ?_
    rw [nodesEL_append]
    exact List.mem_append_right _ (List.mem_append_left _ (.tail _ hn))

theorem nodes_plug (ctx : BCtx) (s : Stmt) : ∀ n, n ∈ nodesS s → n ∈ nodesB (ctx.plug s) := by
  have mid : ∀ (sp : Option Span) (pre : StmtList) (t : Stmt) (post : StmtList) (last : LastStmt) (n : Node),
      n ∈ nodesS t → n ∈ nodesB (.mk sp (StmtList.append pre (.cons t post)) last) := by
    intro sp pre t post last n hn
    refine List.mem_append_left _ ?_
    rw [nodesSL_append]
    exact List.mem_append_right _ (List.mem_append_left _ hn)
  induction ctx with
  | hole sp pre post last => exact mid sp pre s post last
  | nest sp pre f inner post last ih =>
    exact fun n hn => mid sp pre _ post last n (nodes_fill f (inner.plug s) n (ih n hn))

theorem runLint_plug (hook : Node → List Diag) (ctx : BCtx) {s : Stmt} {n : Node} {g : Diag}
    (hn : n ∈ nodesS s) (hg : g ∈ hook n) : g ∈ runLint hook (ctx.plug s) :=
  mem_runLint.mpr ⟨n, nodes_plug ctx s n hn, hg⟩

end Selene.Lints
