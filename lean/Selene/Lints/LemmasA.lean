/- Node-level lemmas behind the C04A property theorems: for each lint, `hook` (the transcription of the
Rust) against `Doc` / `Canon` (the specification, `DocA.lean`).  A lint whose pattern has no literal to
re-spell has `Canon.L := ByValue.L` there, which is why its `hook_canon` unfolds both. -/
import Selene.Lints.DocA
import Selene.Lints.ConstantTableComparison
import Selene.Lints.TypeCheckInsideCall
import Selene.Lints.ParentheseConditions
namespace Selene.Lints
open Selene.Lua

/-- soundness of a hook lifts to programs; the hook need only be sound on the nodes of the program at hand -/
theorem sound_lift_on {hook : Node → List Diag} {doc : Node → Diag → Bool} {b : Block}
    (hnode : ∀ n ∈ nodesB b, ∀ g ∈ hook n, doc n g = true)
    {g : Diag} (h : g ∈ runLint hook b) : ∃ n ∈ nodesB b, doc n g = true :=
  (mem_runLint.mp h).imp fun n hn => ⟨hn.1, hnode n hn.1 g hn.2⟩

theorem sound_lift {hook : Node → List Diag} {doc : Node → Diag → Bool}
    (hnode : ∀ n g, g ∈ hook n → doc n g = true)
    {b : Block} {g : Diag} (h : g ∈ runLint hook b) : ∃ n ∈ nodesB b, doc n g = true :=
  sound_lift_on (fun n _ => hnode n) h

theorem canon_lift {hook : Node → List Diag} {canon : Node → List Expect}
    (hnode : ∀ n x, x ∈ canon n → ∃ g ∈ hook n, x.matches g = true)
    {n : Node} {x : Expect} (hx : x ∈ canon n) {s : Stmt} (hn : n ∈ nodesS s) (ctx : BCtx) :
    ∃ g ∈ runLint hook (ctx.plug s), x.matches g = true :=
  (hnode n x hx).imp fun _ hg => hg.imp_left (runLint_plug hook ctx hn)

theorem Expect.matches_of {x : Expect} {g : Diag} (hp : g.primary = x.primary) (hs : x.subStart = none) :
    x.matches g = true := by
  simp [Expect.matches, hp, hs]

theorem ConstantTableComparison.isSome_match (e : Expr) :
    (ConstantTableComparison.constantTableMatch e).isSome = Doc.isTable e := by
  cases e with
  | tbl sp fs => cases fs <;> rfl
  | _ => rfl

theorem ConstantTableComparison.isComparison_eq (s : String) :
    ConstantTableComparison.isComparison s = Doc.isComparisonOp s := by
  unfold ConstantTableComparison.isComparison Doc.isComparisonOp
  rw [Bool.or_right_comm _ (s == ">"), Bool.or_right_comm _ (s == ">=")]

/-- every arm but the last reports: the arms differ only in the suggestion -/
theorem ConstantTableComparison.hook_bin (sp : Span) (l r : Expr) (op : Tok) :
    ConstantTableComparison.hook (.expr (.bin sp l op r)) =
      if Doc.isComparisonOp op.text && (Doc.isTable l || Doc.isTable r) then [ConstantTableComparison.diag sp] else [] := by
  rw [← ConstantTableComparison.isSome_match l, ← ConstantTableComparison.isSome_match r, ← ConstantTableComparison.isComparison_eq]
  show (if ConstantTableComparison.isComparison op.text then _ else _) = _
  generalize ConstantTableComparison.constantTableMatch l = ml
  generalize ConstantTableComparison.constantTableMatch r = mr
  cases ConstantTableComparison.isComparison op.text
  · rfl
  · rcases ml with _ | _ | _ <;> rcases mr with _ | _ | _ <;> rfl

theorem ConstantTableComparison.hook_sound (n : Node) (g : Diag) (h : g ∈ ConstantTableComparison.hook n) :
    Doc.constantTableComparison n g = true := by
  unfold ConstantTableComparison.hook at h
  split at h
  · replace h : g ∈ ConstantTableComparison.hook (.expr (.bin _ _ _ _)) := h
    rw [ConstantTableComparison.hook_bin, List.mem_ite_nil_right, List.mem_singleton] at h
    obtain ⟨hc, rfl⟩ := h
    simpa [Doc.constantTableComparison, ConstantTableComparison.diag] using hc
  · cases h

theorem ConstantTableComparison.hook_canon (n : Node) (x : Expect) (hx : x ∈ Canon.constantTableComparison n) :
    ∃ g ∈ ConstantTableComparison.hook n, x.matches g = true := by
  unfold Canon.constantTableComparison ByValue.constantTableComparison at hx
  split at hx
  · rename_i sp l op r
    rw [List.mem_ite_nil_right, List.mem_singleton, Bool.and_eq_true] at hx
    obtain ⟨⟨hop, ht⟩, rfl⟩ := hx
    have : Doc.isComparisonOp op.text = true := by
      unfold Doc.isComparisonOp
      rw [hop]
      rfl
    rw [ConstantTableComparison.hook_bin, this, ht]
    exact ⟨_, .head _, Expect.matches_of rfl rfl⟩
  · cases hx

theorem TypeCheckInsideCall.isTypeFunction_eq (name : String) (roblox : Bool) :
    TypeCheckInsideCall.isTypeFunction name roblox = (name == "type" || (roblox && name == "typeof")) := by
  rw [TypeCheckInsideCall.isTypeFunction, Bool.and_comm]

theorem TypeCheckInsideCall.hook_sound (roblox : Bool) (n : Node) (g : Diag)
    (h : g ∈ TypeCheckInsideCall.hook roblox n) : Doc.typeCheckInsideCall roblox n g = true := by
  unfold TypeCheckInsideCall.hook at h
  split at h
  · rename_i rhs _ _
    rw [TypeCheckInsideCall.isTypeFunction_eq, List.mem_ite_nil_right, List.mem_singleton, Bool.and_eq_true] at h
    obtain ⟨⟨hc, hs⟩, rfl⟩ := h
    revert hs
    fun_cases TypeCheckInsideCall.isStringLit rhs
    · exact fun _ => Bool.and_eq_true_iff.mpr ⟨hc, beq_self_eq_true _⟩
    · exact nofun
  · cases h

theorem TypeCheckInsideCall.hook_canon (roblox : Bool) (n : Node) (x : Expect)
    (hx : x ∈ Canon.typeCheckInsideCall roblox n) : ∃ g ∈ TypeCheckInsideCall.hook roblox n, x.matches g = true := by
  unfold Canon.typeCheckInsideCall ByValue.typeCheckInsideCall at hx
  split at hx
  · rw [List.mem_ite_nil_right, List.mem_singleton] at hx
    obtain ⟨hc, rfl⟩ := hx
    refine ⟨{ code := "type_check_inside_call", primary := _, msg := TypeCheckInsideCall.message }, ?_, Expect.matches_of rfl rfl⟩
    simp only [TypeCheckInsideCall.hook, TypeCheckInsideCall.isTypeFunction_eq, TypeCheckInsideCall.isStringLit, Bool.and_true,
      hc, if_true, List.mem_singleton]
  · cases hx

theorem ParentheseConditions.lintCondition_eq (c : Expr) :
    ParentheseConditions.lintCondition c =
      (Doc.parenSpan c).toList.map fun sp =>
        { code := "parenthese_conditions", primary := sp, msg := ParentheseConditions.message } := by
  cases c <;> rfl

theorem ParentheseConditions.elseIfConditions_eq : (elifs : ElseIfList) →
    ParentheseConditions.elseIfConditions elifs = (Doc.elifConds elifs).flatMap ParentheseConditions.lintCondition
  | .nil => rfl
  | .cons (.mk _ c _) rest =>
    congrArg (ParentheseConditions.lintCondition c ++ ·) (ParentheseConditions.elseIfConditions_eq rest)

theorem ParentheseConditions.hook_eq (n : Node) :
    ParentheseConditions.hook n = (Doc.conditions n).flatMap ParentheseConditions.lintCondition := by
  cases n with
  | stmt s =>
    cases s with
    | if_ sp c b elifs els =>
      exact congrArg (ParentheseConditions.lintCondition c ++ ·) (ParentheseConditions.elseIfConditions_eq elifs)
    | while_ sp c b => exact (List.append_nil _).symm
    | repeat_ sp b c => exact (List.append_nil _).symm
    | _ => rfl
  | _ => rfl

theorem ParentheseConditions.mem_hook {n : Node} {g : Diag} :
    g ∈ ParentheseConditions.hook n ↔ ∃ c ∈ Doc.conditions n, ∃ sp, Doc.parenSpan c = some sp ∧
      g = { code := "parenthese_conditions", primary := sp, msg := ParentheseConditions.message } := by
  simp only [ParentheseConditions.hook_eq, ParentheseConditions.lintCondition_eq, List.mem_flatMap, List.mem_map,
    Option.mem_toList, eq_comm]

theorem ParentheseConditions.hook_sound (n : Node) (g : Diag) (h : g ∈ ParentheseConditions.hook n) :
    Doc.parentheseConditions n g = true := by
  obtain ⟨c, hc, sp, hsp, rfl⟩ := ParentheseConditions.mem_hook.mp h
  exact List.any_eq_true.mpr ⟨c, hc, by simp [hsp]⟩

theorem ParentheseConditions.hook_canon (n : Node) (x : Expect) (hx : x ∈ Canon.parentheseConditions n) :
    ∃ g ∈ ParentheseConditions.hook n, x.matches g = true := by
  simp only [Canon.parentheseConditions, ByValue.parentheseConditions, List.mem_filterMap, Option.map_eq_some_iff] at hx
  obtain ⟨c, hc, sp, hsp, rfl⟩ := hx
  exact ⟨_, ParentheseConditions.mem_hook.mpr ⟨c, hc, sp, hsp, rfl⟩, Expect.matches_of rfl rfl⟩

end Selene.Lints
