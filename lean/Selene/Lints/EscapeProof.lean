/-
`bad_string_escape`: the regular-expression scanner of the lint (`BadStringEscape.scan`) and the Lua lexer of the
specification (`Doc.luaEscapes`) find their escape sequences at the same backslashes, for every string: both are computed
from `escStarts` (`eq_escStarts`), because what either passes over after an escape (hex digits, a brace,
decimal digits) is a `Skip`, single-byte characters without a backslash.
-/
import Selene.Lints.BadStringEscape
import Selene.Lints.DocA
namespace Selene.Lints.EscapeProof
open Selene.Lua Selene.Lints Selene.Lints.BadStringEscape

/-- (offset of the backslash, the character after it, the text after that) for every escape of the
    text; `off` = offset of the first character -/
def escStarts : List Char → Nat → List (Nat × Char × List Char)
  | [], _ => []
  | [_], _ => []
  | c :: d :: r, off =>
    if c = '\\' then (off, d, r) :: escStarts r (off + 1 + d.utf8Size)
    else escStarts (d :: r) (off + c.utf8Size)

/-- a stretch both scanners pass over: no backslash, and one byte per character (offsets count bytes) -/
def Skip (p : List Char) : Prop := ∀ c ∈ p, c ≠ '\\' ∧ c.utf8Size = 1

theorem escStarts_cons_ne (c : Char) (cs : List Char) (off : Nat) (h : c ≠ '\\') :
    escStarts (c :: cs) off = escStarts cs (off + c.utf8Size) := by
  cases cs with
  | nil => rfl
  | cons d r => exact if_neg h

theorem escStarts_bs (d : Char) (r : List Char) (off : Nat) :
    escStarts ('\\' :: d :: r) off = (off, d, r) :: escStarts r (off + 1 + d.utf8Size) :=
  if_pos rfl

theorem escStarts_skip (p rest : List Char) (off : Nat) (h : Skip p) :
    escStarts (p ++ rest) off = escStarts rest (off + p.length) := by
  induction p generalizing off with
  | nil => rfl
  | cons c p ih =>
    obtain ⟨hc, hp⟩ := List.forall_mem_cons.mp h
    rw [List.cons_append, escStarts_cons_ne _ _ _ hc.1, ih _ hp, hc.2, List.length_cons, Nat.add_assoc, Nat.add_comm 1]

/-- `k`: what `S` adds to the offset it is given.  The second alternative of `esc` is the regular expression's at a
    backslash before a line feed. -/
theorem eq_escStarts {β : Type} {S : Nat → List Char → Nat → List β} {out : Nat × Char × List Char → Option β} (k : Nat)
    (nil : ∀ f off, S f [] off = []) (last : ∀ f off, S (f + 1) ['\\'] off = [])
    (ne : ∀ f c cs off, c ≠ '\\' → S (f + 1) (c :: cs) off = S f cs (off + c.utf8Size))
    (esc : ∀ f d r off,
      (∃ p rest, r = p ++ rest ∧ Skip p ∧
        S (f + 1) ('\\' :: d :: r) off = (out (off + k, d, r)).toList ++ S f rest (off + 1 + d.utf8Size + p.length)) ∨
      (d ≠ '\\' ∧ out (off + k, d, r) = none ∧ S (f + 1) ('\\' :: d :: r) off = S f (d :: r) (off + 1))) :
    (fuel : Nat) → (cs : List Char) → (off : Nat) → cs.length < fuel → S fuel cs off = (escStarts cs (off + k)).filterMap out
  | 0, _, _, hf => absurd hf (Nat.not_lt_zero _)
  | _ + 1, [], _, _ => nil _ _
  | f + 1, c :: cs, off, hf => by
    have hf' : cs.length < f := Nat.lt_of_succ_lt_succ hf
    have ih := eq_escStarts k nil last ne esc f
    by_cases hb : c = '\\'
    · subst hb
      cases cs with
      | nil => exact last f off
      | cons d r =>
        rw [escStarts_bs, List.filterMap_cons]
        rcases esc f d r off with ⟨p, rest, rfl, hp, hs⟩ | ⟨hd, ho, hs⟩
        · have hlen : rest.length < f := by rw [List.length_cons, List.length_append] at hf'; omega
          rw [hs, ih rest _ hlen, escStarts_skip _ _ _ hp, Nat.add_right_comm _ _ k,
            Nat.add_right_comm _ _ k, Nat.add_right_comm _ 1 k]
          cases out (off + k, d, p ++ rest) <;> rfl
        · rw [hs, ho, ih _ _ hf', escStarts_cons_ne _ _ _ hd, Nat.add_right_comm _ 1]
    · rw [ne _ _ _ _ hb, escStarts_cons_ne _ _ _ hb, Nat.add_right_comm]
      exact ih _ _ hf'

theorem isHex_skip (c : Char) (h : isHex c = true) : c ≠ '\\' ∧ c.utf8Size = 1 := by
  constructor
  · rintro rfl
    exact absurd h (by decide)
  · apply Char.utf8Size_eq_one_iff.mpr
    simp only [isHex, isDec, Bool.or_eq_true, Bool.and_eq_true, decide_eq_true_eq] at h
    rcases h with (⟨_, h⟩ | ⟨_, h⟩) | ⟨_, h⟩ <;> exact UInt32.le_trans h (by decide)

theorem isDec_isHex (c : Char) (h : isDec c = true) : isHex c = true := by simp [isHex, h]

theorem Skip.nil : Skip [] := List.forall_mem_nil _

theorem Skip.brace : Skip ['{'] := List.forall_mem_singleton.mpr (by decide)

theorem Skip.hex {c : Char} {p : List Char} (hc : isHex c = true) (hp : Skip p) : Skip (c :: p) :=
  List.forall_mem_cons.mpr ⟨isHex_skip c hc, hp⟩

theorem takeHexRun_spec (r : List Char) :
    r = (takeHexRun r).1 ++ (takeHexRun r).2 ∧ ∀ c ∈ (takeHexRun r).1, isHex c = true := by
  induction r with
  | nil => exact ⟨rfl, List.forall_mem_nil _⟩
  | cons c cs ih =>
    unfold takeHexRun
    by_cases h : isHex c = true
    · rw [if_pos h]
      exact ⟨congrArg (c :: ·) ih.1, List.forall_mem_cons.mpr ⟨h, ih.2⟩⟩
    · rw [if_neg h]
      exact ⟨rfl, List.forall_mem_nil _⟩

theorem takeHexRun_eq (r : List Char) : takeHexRun r = Doc.hexRun r := by
  induction r with
  | nil => rfl
  | cons c cs ih => unfold takeHexRun Doc.hexRun; rw [ih]

theorem hexNat_eq (l : List Char) (acc : Nat) : hexNat l acc = Doc.hexNum l acc := by
  induction l generalizing acc with
  | nil => rfl
  | cons c cs ih => unfold hexNat Doc.hexNum; exact ih _

/-- the capture made at the escape whose backslash is at `o - 1` and which is followed by `d :: r` -/
def capOf (o : Nat) (d : Char) (r : List Char) : Cap :=
  match d, r with
  | 'u', '{' :: r' => ⟨o, ['u', '{'], (takeHexRun r').1, (closing (takeHexRun r').2).1⟩
  | _, _ => ⟨o, [d], (takeHexRun r).1, (closing (takeHexRun r).2).1⟩

/-- `.` does not match a line feed -/
def capAt : Nat × Char × List Char → Option Cap
  | (o, d, r) => if d = '\n' then none else some (capOf o d r)

theorem closing_cons (t : List Char) : closing ('}' :: t) = (true, t) := rfl

theorem closing_of_ne {l : List Char} (h : ∀ t, l = '}' :: t → False) : closing l = (false, l) := by
  unfold closing
  split
  · exact (h _ rfl).elim
  · rfl

theorem closing_spec (l : List Char) :
    l = (if (closing l).1 then ['}'] else []) ++ (closing l).2 := by
  unfold closing
  split <;> rfl

/-- what the match consumes after `\\d`: `q` (`{` of `u{`), hex digits, maybe `}` -/
theorem tail_skip {q : List Char} (hq : Skip q) (r : List Char) :
    ∃ p, q ++ r = p ++ (closing (takeHexRun r).2).2 ∧ Skip p ∧ ∀ off,
      off + p.length = off + q.length + (takeHexRun r).1.length + (if (closing (takeHexRun r).2).1 then 1 else 0) := by
  obtain ⟨h1, h2⟩ := takeHexRun_spec r
  refine ⟨q ++ (takeHexRun r).1 ++ (if (closing (takeHexRun r).2).1 then ['}'] else []), ?_, ?_, ?_⟩
  · rw [List.append_assoc, List.append_assoc, ← closing_spec, ← h1]
  · refine List.forall_mem_append.mpr ⟨List.forall_mem_append.mpr ⟨hq, fun c hc => isHex_skip c (h2 c hc)⟩, ?_⟩
    split
    · exact List.forall_mem_singleton.mpr (by decide)
    · exact Skip.nil
  · intro off
    rw [List.length_append, List.length_append, ← Nat.add_assoc, ← Nat.add_assoc]
    split <;> rfl

theorem scan_nil (f off : Nat) : scan f [] off = [] := by
  cases f <;> rfl

theorem scan_ne (f : Nat) (c : Char) (cs : List Char) (off : Nat) (h : c ≠ '\\') :
    scan (f + 1) (c :: cs) off = scan f cs (off + c.utf8Size) :=
  if_neg h

theorem capOf_brace (o : Nat) (r' : List Char) :
    capOf o 'u' ('{' :: r') = ⟨o, ['u', '{'], (takeHexRun r').1, (closing (takeHexRun r').2).1⟩ := rfl

theorem capOf_plain (o : Nat) (d : Char) (r : List Char) (h : ¬ (d = 'u' ∧ ∃ r', r = '{' :: r')) :
    capOf o d r = ⟨o, [d], (takeHexRun r).1, (closing (takeHexRun r).2).1⟩ := by
  unfold capOf
  split
  · exact absurd ⟨rfl, _, rfl⟩ h
  · rfl

theorem scan_eq (fuel : Nat) (cs : List Char) (off : Nat) (h : cs.length < fuel) :
    scan fuel cs off = (escStarts cs (off + 1)).filterMap capAt := by
  refine eq_escStarts 1 scan_nil (fun _ _ => rfl) scan_ne (fun f d r off => ?_) fuel cs off h
  by_cases hd : d = '\n'
  · subst hd
    exact Or.inr ⟨by decide, rfl, rfl⟩
  refine Or.inl ?_
  rw [capAt, if_neg hd]
  by_cases hb : d = 'u' ∧ ∃ r', r = '{' :: r'
  · obtain ⟨rfl, r', rfl⟩ := hb
    obtain ⟨p, hp1, hp2, hp3⟩ := tail_skip .brace r'
    exact ⟨p, _, hp1, hp2, by rw [hp3]; rfl⟩
  · obtain ⟨p, hp1, hp2, hp3⟩ := tail_skip .nil r
    refine ⟨p, _, hp1, hp2, ?_⟩
    rw [hp3, capOf_plain _ _ _ hb, scan]
    · rw [if_pos rfl, if_neg hd]
      rfl
    · exact fun r' h1 h2 => hb ⟨h1, r', h2⟩

abbrev luaSimple (d : Char) : Bool :=
  d = 'a' || d = 'b' || d = 'f' || d = 'n' || d = 'r' || d = 't' || d = 'v' || d = '\\' || d = '"' || d = '\''
    || d = '\n' || d = '\r'

/-- `luaSimple` without the two quotes, for which the lint has cases of its own, and the line feed, which it never captures -/
abbrev lintSimple (d : Char) : Bool :=
  d = 'a' || d = 'b' || d = 'f' || d = 'n' || d = 'r' || d = 't' || d = 'v' || d = '\\' || d = '\r'

/-- how a Lua (Luau, when `roblox`) lexer classifies the escape `\\d…` followed by `r` -/
def classOf (roblox : Bool) (d : Char) (r : List Char) : Doc.EscClass :=
  if luaSimple d then .ok d
  else if isDec d then
    match r with
    | d2 :: d3 :: _ =>
      if isDec d2 && isDec d3 then
        (if decVal d * 100 + decVal d2 * 10 + decVal d3 > 255 then .decimalTooHigh else .ok d)
      else .ok d
    | _ => .ok d
  else if roblox && d = 'z' then .ok d
  else if roblox && d = 'x' then
    match r with
    | h1 :: h2 :: _ => if isHex h1 && isHex h2 then .ok d else .malformed
    | _ => .malformed
  else if roblox && d = 'u' then
    match r with
    | '{' :: r2 =>
      if (closing (takeHexRun r2).2).1 then
        if (takeHexRun r2).1.isEmpty then .malformed
        else if hexNat (takeHexRun r2).1 0 > 0x10ffff then .codepointTooHigh else .ok d
      else .malformed
    | _ => .malformed
  else .invalid

theorem lua_nil (roblox : Bool) (f off : Nat) : Doc.luaEscapes roblox f [] off = [] := by
  cases f <;> rfl

theorem lua_ne (roblox : Bool) (f : Nat) (c : Char) (cs : List Char) (off : Nat) (h : c ≠ '\\') :
    Doc.luaEscapes roblox (f + 1) (c :: cs) off = Doc.luaEscapes roblox f cs (off + c.utf8Size) :=
  if_neg h

/-- `lex` is an escape of class `cl` at `off`, then the lexer resumed in `r`, at offset `o`, after a `Skip` -/
inductive LexStep (roblox : Bool) (f off : Nat) (r : List Char) (o : Nat) (lex : List (Nat × Doc.EscClass))
    (cl : Doc.EscClass) : Prop
  | skip {p rest : List Char} (hr : r = p ++ rest) (hp : Skip p)
      (hlex : lex = (off, cl) :: Doc.luaEscapes roblox f rest (o + p.length))

section
variable {roblox : Bool} {f off o : Nat} {r : List Char} {lex lex' : List (Nat × Doc.EscClass)} {cl cl' : Doc.EscClass}

theorem LexStep.here : LexStep roblox f off r o ((off, cl) :: Doc.luaEscapes roblox f r o) cl :=
  .skip (p := []) rfl .nil rfl

/-- the text ends within the escape -/
theorem LexStep.stop (hr : Skip r) : LexStep roblox f off r o [(off, cl)] cl :=
  .skip (List.append_nil r).symm hr (by rw [lua_nil])

theorem LexStep.ite {c : Prop} [Decidable c] (t : c → LexStep roblox f off r o lex cl)
    (e : ¬ c → LexStep roblox f off r o lex' cl') :
    LexStep roblox f off r o (if c then lex else lex') (if c then cl else cl') := by
  by_cases h : c
  · rw [if_pos h, if_pos h]
    exact t h
  · rw [if_neg h, if_neg h]
    exact e h

end

theorem lua_step (roblox : Bool) (f : Nat) (d : Char) (r : List Char) (off : Nat) :
    LexStep roblox f off r (off + 1 + d.utf8Size) (Doc.luaEscapes roblox (f + 1) ('\\' :: d :: r) off)
      (classOf roblox d r) := by
  unfold Doc.luaEscapes classOf
  rw [if_pos rfl]
  dsimp only
  -- the lexer and `classOf` make the same tests in the same order
  refine .ite (fun _ => .here) fun _ => ?_
  refine .ite (fun h2 => ?_) fun _ => ?_
  · rw [(isHex_skip d (isDec_isHex d h2)).2]
    match r with
    | [] => exact .stop .nil
    | [d2] =>
      show LexStep roblox f off [d2] _ (if isDec d2 then [(off, .ok d)] else _) (.ok d)
      split
      next h3 => exact .stop (.hex (isDec_isHex d2 h3) .nil)
      next => exact .here
    | d2 :: d3 :: r3 =>
      show LexStep roblox f off (d2 :: d3 :: r3) _ (if isDec d2 then (if isDec d3 then _ else _) else _)
        (if isDec d2 && isDec d3 then _ else .ok d)
      cases h3 : isDec d2 with
      | false => exact .here
      | true =>
        rw [if_pos rfl, Bool.true_and]
        refine .ite (fun h4 => ?_) fun _ => ?_
        · exact .skip (p := [d2, d3]) rfl (.hex (isDec_isHex d2 h3) (.hex (isDec_isHex d3 h4) .nil)) rfl
        · exact .skip (p := [d2]) rfl (.hex (isDec_isHex d2 h3) .nil) rfl
  refine .ite (fun h3 => ?_) fun _ => ?_
  · obtain rfl : d = 'z' := of_decide_eq_true (Bool.and_eq_true _ _ ▸ h3).2
    exact .here
  refine .ite (fun h4 => ?_) fun _ => ?_
  · obtain rfl : d = 'x' := of_decide_eq_true (Bool.and_eq_true _ _ ▸ h4).2
    match r with
    | [] | [_] => exact .here
    | c1 :: c2 :: r2 =>
      show LexStep roblox f off (c1 :: c2 :: r2) _ (if isHex c1 && isHex c2 then _ else _)
        (if isHex c1 && isHex c2 then .ok 'x' else .malformed)
      refine .ite (fun h5 => ?_) fun _ => .here
      obtain ⟨a, b⟩ := (Bool.and_eq_true _ _).mp h5
      exact .skip (p := [c1, c2]) rfl (.hex a (.hex b .nil)) rfl
  refine .ite (fun h5 => ?_) fun _ => ?_
  · obtain rfl : d = 'u' := of_decide_eq_true (Bool.and_eq_true _ _ ▸ h5).2
    -- the lexer's `match r`; `classOf`'s has the same patterns
    split
    next r1 =>
      show LexStep roblox f off ('{' :: r1) _ _ (if (closing (takeHexRun r1).2).1 then _ else .malformed)
      obtain ⟨p, hp, hs, hlen⟩ := tail_skip .brace r1
      have hoff : off + 1 + 'u'.utf8Size + p.length =
          off + 3 + (takeHexRun r1).1.length + (if (closing (takeHexRun r1).2).1 then 1 else 0) := hlen _
      refine .skip hp hs ?_
      rw [hoff, ← takeHexRun_eq, ← hexNat_eq]
      split
      next r3 h6 =>
        rw [h6, closing_cons]
        cases (takeHexRun r1).1 with
        | nil => rfl
        | cons c cs => exact congrArg (_ :: Doc.luaEscapes roblox f r3 ·) (Nat.add_right_comm (off + 3) 1 _)
      next h6 =>
        rw [closing_of_ne h6]
        rfl
    next nb =>
      split
      next r1 => exact (nb r1 rfl).elim
      next => exact .here
  exact .here

theorem lua_eq (roblox : Bool) (fuel : Nat) (cs : List Char) (off : Nat) (h : cs.length < fuel) :
    Doc.luaEscapes roblox fuel cs off = (escStarts cs off).filterMap fun (o, d, r) => some (o, classOf roblox d r) := by
  refine eq_escStarts (out := fun (o, d, r) => some (o, classOf roblox d r)) 0 (lua_nil roblox) (fun _ _ => rfl)
    (lua_ne roblox) (fun f d r off => ?_) fuel cs off h
  obtain ⟨hr, hp, hlex⟩ := lua_step roblox f d r off
  exact Or.inl ⟨_, _, hr, hp, hlex⟩

/-- what `Doc.badStringEscape` asks of a complaint `msg` about an escape of class `cl` -/
def Compat (q : QuoteKind) (cl : Doc.EscClass) (msg : String) : Prop :=
  Doc.complaint q cl = some msg ∨
    (Doc.broken cl = true ∧ Doc.brokenMessages.contains msg = true ∧ cl ≠ .decimalTooHigh ∧ msg ≠ "decimal escape is too high")

theorem compat_broken {q : QuoteKind} {cl : Doc.EscClass} {msg : String} (hb : Doc.broken cl = true)
    (hc : cl ≠ .decimalTooHigh) (hm : msg ∈ Doc.brokenMessages) : Compat q cl msg := by
  have : ∀ m ∈ Doc.brokenMessages, m ≠ "decimal escape is too high" := by simp [Doc.brokenMessages]
  exact Or.inr ⟨hb, List.elem_eq_true_of_mem hm, hc, this msg hm⟩

theorem capDiag_brace (roblox : Bool) (q : QuoteKind) (start : Nat) (g2 : List Char) (g3 : Bool) :
    capDiag roblox q ⟨start, ['u', '{'], g2, g3⟩ =
      (if !roblox then some (start, start + 2, msgInvalid)
       else if !g3 then some (start, start + g2.length + 3, msgMalformed)
       else if g2.isEmpty || hexNat g2 0 > 0x10ffff then some (start, start + g2.length + 4, msgCodepoint)
       else none) := by
  unfold capDiag
  rw [if_pos rfl]

/-- the specification accepts the verdict `out` on an escape at `o` of class `cl` -/
def Justified (q : QuoteKind) (o : Nat) (cl : Doc.EscClass) (out : Option (Nat × Nat × String)) : Prop :=
  ∀ a b msg, out = some (a, b, msg) → a = o ∧ a < b ∧ Compat q cl msg

theorem Justified.none {q : QuoteKind} {o : Nat} {cl : Doc.EscClass} : Justified q o cl none :=
  fun _ _ _ h => nomatch h

theorem Justified.some {q : QuoteKind} {o b : Nat} {cl : Doc.EscClass} {msg : String} (hb : o < b)
    (hc : Compat q cl msg) : Justified q o cl (some (o, b, msg)) := by
  rintro _ _ _ ⟨⟩
  exact ⟨rfl, hb, hc⟩

theorem Justified.ite {q : QuoteKind} {o : Nat} {cl : Doc.EscClass} {c : Prop} [Decidable c]
    {out out' : Option (Nat × Nat × String)} (t : c → Justified q o cl out) (e : ¬ c → Justified q o cl out') :
    Justified q o cl (if c then out else out') := by
  by_cases h : c
  · rw [if_pos h]
    exact t h
  · rw [if_neg h]
    exact e h

theorem compat_brace (roblox : Bool) (q : QuoteKind) (o : Nat) (r' : List Char) :
    Justified q o (classOf roblox 'u' ('{' :: r')) (capDiag roblox q (capOf o 'u' ('{' :: r'))) := by
  rw [capOf_brace, capDiag_brace]
  cases roblox with
  | false => exact .some (by omega) (Or.inl rfl)
  | true =>
    show Justified q o (if (closing (takeHexRun r').2).1 = true then _ else _) _
    have nt : ¬(!true) = true := Bool.false_ne_true
    cases (closing (takeHexRun r').2).1 with
    | false => exact .some (by omega) (Or.inl rfl)
    | true =>
      rw [if_pos rfl, if_neg nt, if_neg nt]
      cases (takeHexRun r').1.isEmpty with
      | true =>
        -- `\\u{}`: malformed to the lexer, "too high" to the lint
        exact .some (by omega) (compat_broken rfl nofun (.tail _ (.tail _ (.head _))))
      | false =>
        rw [if_neg Bool.false_ne_true, Bool.false_or]
        by_cases hbig : hexNat (takeHexRun r').1 0 > 0x10ffff
        · rw [if_pos hbig, if_pos (decide_eq_true hbig)]
          exact .some (by omega) (Or.inl rfl)
        · rw [if_neg (mt of_decide_eq_true hbig)]
          exact .none

theorem capDiag_plain (roblox : Bool) (q : QuoteKind) (start : Nat) (d : Char) (g2 : List Char) (g3 : Bool) :
    capDiag roblox q ⟨start, [d], g2, g3⟩ =
      (if lintSimple d then none
       else if isDec d then
         (if (d :: leadingDecimals g2 2).length == 3 && decNat (d :: leadingDecimals g2 2) 0 > 0xff
          then some (start, start + 4, msgDecimal) else none)
       else if d = '"' then (if q = .single then some (start, start + 2, msgDoubleInSingle) else none)
       else if d = '\'' then (if q = .double then some (start, start + 2, msgSingleInDouble) else none)
       else if d = 'z' then (if !roblox then some (start, start + 2, msgInvalid) else none)
       else if d = 'x' then
         (if !roblox then some (start, start + 2, msgInvalid)
          else if g2.length < 2 then some (start, start + g2.length + 2, msgMalformed)
          else none)
       else some (start, start + 1 + d.utf8Size, msgInvalid)) := by
  unfold capDiag
  rw [if_neg (by simp)]

theorem dec_not_simple (d : Char) (h : isDec d = true) : ¬ luaSimple d = true := by
  intro hc
  simp only [Bool.or_eq_true, decide_eq_true_eq] at hc
  rcases hc with ((((((((((( e | e) | e) | e) | e) | e) | e) | e) | e) | e) | e) | e) <;>
    (subst e; revert h; decide)

theorem leadingDecimals_two : (l : List Char) → (leadingDecimals l 2).length = 2 →
    ∃ d2 d3 t, l = d2 :: d3 :: t ∧ isDec d2 = true ∧ isDec d3 = true ∧ leadingDecimals l 2 = [d2, d3]
  | [], h => nomatch h
  | [d2], h => by
    unfold leadingDecimals at h
    split at h <;> simp [leadingDecimals] at h
  | d2 :: d3 :: t, h => by
    by_cases h2 : isDec d2 = true
    · by_cases h3 : isDec d3 = true
      · exact ⟨d2, d3, t, rfl, h2, h3, by simp [leadingDecimals, h2, h3]⟩
      · simp [leadingDecimals, h2, h3] at h
    · simp [leadingDecimals, h2] at h

theorem classOf_dec_high (roblox : Bool) (d : Char) (r : List Char) (hd : isDec d = true)
    (h : ((d :: leadingDecimals (takeHexRun r).1 2).length == 3 &&
      decNat (d :: leadingDecimals (takeHexRun r).1 2) 0 > 0xff) = true) :
    classOf roblox d r = .decimalTooHigh := by
  simp only [Bool.and_eq_true, beq_iff_eq, List.length_cons, decide_eq_true_eq] at h
  obtain ⟨hlen, hgt⟩ := h
  obtain ⟨d2, d3, t, ht, hd2, hd3, hl⟩ := leadingDecimals_two (takeHexRun r).1 (by omega)
  have hr : r = d2 :: d3 :: (t ++ (takeHexRun r).2) := (takeHexRun_spec r).1.trans (by rw [ht]; rfl)
  have hv : decNat [d, d2, d3] 0 = decVal d * 100 + decVal d2 * 10 + decVal d3 := by
    simp only [decNat, Nat.zero_mul, Nat.zero_add, Nat.add_mul, Nat.mul_assoc]
  rw [hl, hv] at hgt
  unfold classOf
  rw [if_neg (dec_not_simple d hd), if_pos hd, hr]
  dsimp only
  rw [hd2, hd3]
  exact (if_pos rfl).trans (if_pos hgt)

theorem classOf_x_short (r : List Char) : (takeHexRun r).1.length < 2 → classOf true 'x' r = .malformed := by
  rw [show classOf true 'x' r = (match r with
    | h1 :: h2 :: _ => if isHex h1 && isHex h2 then .ok 'x' else .malformed
    | _ => .malformed) from rfl]
  match r with
  | [] | [_] => exact fun _ => rfl
  | h1 :: h2 :: r2 =>
    refine fun h => if_neg fun hh => ?_
    obtain ⟨a, b⟩ := (Bool.and_eq_true _ _).mp hh
    rw [takeHexRun, if_pos a, takeHexRun, if_pos b] at h
    exact absurd h (by simp)

theorem compat_other (roblox : Bool) (q : QuoteKind) (d : Char) (r : List Char)
    (hs : ¬ lintSimple d = true)
    (hdq : d ≠ '"') (hsq : d ≠ '\'') (hnl : d ≠ '\n')
    (hdec : ¬ isDec d = true) (hz : d ≠ 'z') (hx : d ≠ 'x') (hnb : ¬ (d = 'u' ∧ ∃ r', r = '{' :: r')) :
    Compat q (classOf roblox d r) msgInvalid := by
  have hs' : ¬ luaSimple d = true := by
    simp only [Bool.or_eq_true, decide_eq_true_eq, not_or] at hs ⊢
    exact ⟨⟨⟨⟨hs.1, hdq⟩, hsq⟩, hnl⟩, hs.2⟩
  unfold classOf
  rw [if_neg hs', if_neg hdec, if_neg (by simp [hz]), if_neg (by simp [hx])]
  by_cases hu : (roblox && decide (d = 'u')) = true
  · -- `\\u` without a brace in Luau: `.malformed`
    have hdu : d = 'u' := of_decide_eq_true (Bool.and_eq_true _ _ ▸ hu).2
    rw [if_pos hu]
    split
    next r2 => exact absurd ⟨hdu, r2, rfl⟩ hnb
    next => exact compat_broken rfl nofun (.head _)
  · rw [if_neg hu]
    exact Or.inl rfl

theorem compat_plain (roblox : Bool) (q : QuoteKind) (o : Nat) (d : Char) (r : List Char)
    (hd : d ≠ '\n') (hnb : ¬ (d = 'u' ∧ ∃ r', r = '{' :: r')) :
    Justified q o (classOf roblox d r) (capDiag roblox q (capOf o d r)) := by
  rw [capOf_plain o d r hnb, capDiag_plain]
  refine .ite (fun _ => .none) fun c1 => ?_
  refine .ite (fun c2 => ?_) fun c2 => ?_
  · refine .ite (fun c3 => ?_) fun _ => .none
    exact .some (by omega) (Or.inl (by rw [classOf_dec_high roblox d r c2 c3]; rfl))
  refine .ite (fun c4 => ?_) fun c4 => ?_
  · refine .ite (fun hq => ?_) fun _ => .none
    subst c4 hq
    exact .some (by omega) (Or.inl rfl)
  refine .ite (fun c5 => ?_) fun c5 => ?_
  · refine .ite (fun hq => ?_) fun _ => .none
    subst c5 hq
    exact .some (by omega) (Or.inl rfl)
  refine .ite (fun c6 => ?_) fun c6 => ?_
  · subst c6
    cases roblox with
    | false => exact .some (by omega) (Or.inl rfl)
    | true => exact .none
  refine .ite (fun c7 => ?_) fun c7 => ?_
  · subst c7
    cases roblox with
    | false => exact .some (by omega) (Or.inl rfl)
    | true =>
      rw [if_neg nofun]
      refine .ite (fun c8 => ?_) fun _ => .none
      exact .some (by omega) (Or.inl (by rw [classOf_x_short r c8]; rfl))
  have := Char.utf8Size_pos d
  exact .some (by omega) (compat_other roblox q d r c1 c4 c5 hd c2 c6 c7 hnb)

/-- **soundness of `bad_string_escape`, for every program**: every diagnostic sits on a quoted string
literal, its label starts at the backslash of an escape sequence of that literal — as a Lua (Luau) lexer
reads the literal — and that escape earns the complaint: it does not exist, is malformed, is a decimal
escape above 255, a code point above 10FFFF, or escapes a quote that needs no escaping. -/
theorem bad_string_escape_sound (roblox : Bool) (b : Block) (g : Diag) (h : g ∈ BadStringEscape.lint roblox b) :
    ∃ n ∈ nodesB b, Doc.badStringEscape roblox n g = true := by
  obtain ⟨n, hn, hg⟩ := mem_runLint.mp h
  refine ⟨n, hn, ?_⟩
  unfold hook at hg
  split at hg
  · rename_i t q literal
    by_cases hq : q = .brackets
    · rw [if_pos hq] at hg
      cases hg
    · rw [if_neg hq, scan_eq _ _ _ (Nat.lt_succ_self _)] at hg
      simp only [List.mem_map, List.mem_filterMap] at hg
      obtain ⟨⟨a, b', msg⟩, ⟨c, ⟨⟨o, d, r⟩, hstart, hcap⟩, hx⟩, rfl⟩ := hg
      obtain ⟨hdn, ⟨⟩⟩ := Option.ite_none_left_eq_some.mp hcap
      have hj : Justified q o (classOf roblox d r) (capDiag roblox q (capOf o d r)) := by
        by_cases hb : d = 'u' ∧ ∃ r', r = '{' :: r'
        · obtain ⟨rfl, r', rfl⟩ := hb
          exact compat_brace roblox q o r'
        · exact compat_plain roblox q o d r hdn hb
      obtain ⟨rfl, hlt, hcmp⟩ := hj a b' msg hx
      have hlua : (a, classOf roblox d r) ∈ Doc.escapesOf roblox literal := by
        unfold Doc.escapesOf
        rw [lua_eq _ _ _ _ (Nat.lt_succ_self _)]
        exact List.mem_filterMap.mpr ⟨_, hstart, rfl⟩
      simp only [Doc.badStringEscape, mkDiag, Bool.and_eq_true, bne_iff_ne, ne_eq, beq_iff_eq, decide_eq_true_eq,
        List.any_eq_true]
      refine ⟨⟨hq, trivial⟩, hlt, (a, classOf roblox d r), hlua, ?_⟩
      simp only [true_and, Bool.or_eq_true, beq_iff_eq, Bool.and_eq_true, bne_iff_ne, ne_eq]
      rcases hcmp with h1 | ⟨h1, h2, h3, h4⟩
      · exact Or.inl h1
      · exact Or.inr ⟨⟨⟨h1, h2⟩, h3⟩, h4⟩
  · cases hg

end Selene.Lints.EscapeProof
