/-
The three Roblox lints that look at `Color3.new(…)` / `UDim2.new(…)` calls
(lints/roblox_incorrect_color3_new_bounds.rs, roblox_suspicious_udim2_new.rs,
roblox_manual_fromscale_or_fromoffset.rs) and `ast_util::numeric_literal_value`.

A call is looked at when its prefix is the name `Color3` / `UDim2` and its suffixes are exactly `.new` and a
parenthesised argument list.  Arguments are judged by the value their text denotes once parsed as an `f32`
(Rust's float grammar on number tokens is `decimalValue`'s — no hexadecimal; the result is the correctly
rounded f32): in `0.0..=1.0` iff the exact value is ≤ 1 + 2^-24 (ties to even), equal to `0.0` iff it is
≤ 2^-150 (half the smallest subnormal); a negated literal is in range / zero iff it rounds to `-0.0`.
-/
import Selene.Lints.TraverseA
import Selene.Lints.Value
namespace Selene.Lints.Roblox
open Selene.Lua Selene.Lints

/-- the nearest f32 is `0` -/
def f32IsZero (v : NumVal) : Bool := v.num * 2 ^ 150 ≤ v.den

/-- `numeric_literal_value(e)` reduced to the two questions the lints ask: `some (inUnit, isZero)` for a numeric
literal, optionally negated, whose text Rust's float grammar accepts; `none` for everything else (a variable — whatever
it is called —, a hexadecimal literal, a parenthesised number) -/
def literalFacts : Expr → Option (Bool × Bool)
  | .num t => (decimalValue t.text.toList).map fun v => (v.f32LeOne, f32IsZero v)
  | .un _ op (.num t) =>
    if op.text = "-" then (decimalValue t.text.toList).map fun v => (f32IsZero v, f32IsZero v) else none
  | _ => none

/-- `purge_trivia(e).to_string().parse::<f32>() == Ok(0.0)`: the text of a whole expression parses as a float only when
it is a numeric literal or a negated one (`inf` / `nan` parse, but are not zero) -/
def textIsZero (e : Expr) : Bool :=
  match literalFacts e with
  | some (_, z) => z
  | none => false

/-- the argument list of `Name.new(…)` -/
def ctorArgs (name : String) : FCall → Option ExprList
  | .mk _ (.name t) (.cons (.dot _ n) (.cons (.args _ (.parens _ es)) .nil)) =>
    if t.text = name && n.text = "new" then some es else none
  | _ => none

def color3Args : ExprList → List Diag
  | .nil => []
  | .cons e rest =>
    (match literalFacts e with
     | some (false, _) => [{ code := "roblox_incorrect_color3_new_bounds", primary := Expr.span e, msg := "Color3.new only takes numbers from 0 to 1" }]
     | _ => []) ++ color3Args rest

def isNumberLit : Expr → Bool
  | .num _ => true
  | _ => false

def udim2Message (n : Nat) : String :=
  s!"UDim2.new takes 4 numbers, but {n} {if n = 1 then "was" else "were"} provided."

/-- `roblox_suspicious_udim2_new`: 1–3 arguments, except two arguments none of which is a number literal -/
def udim2Suspicious (sp : Span) (es : ExprList) : List Diag :=
  let n := es.length
  if n = 0 || n ≥ 4 then []
  else if n = 2 && (es.toList.filter isNumberLit).length = 0 then []
  else [{ code := "roblox_suspicious_udim2_new", primary := sp, msg := udim2Message n }]

/-- `roblox_manual_fromscale_or_fromoffset`: four arguments, the two scales (or the two offsets) zero, not all four -/
def udim2Manual (sp : Span) (es : ExprList) : List Diag :=
  match es.toList with
  | [xs, xo, ys, yo] =>
    let onlyOffset := textIsZero xs && textIsZero ys
    let onlyScale := textIsZero xo && textIsZero yo
    if onlyOffset && onlyScale then []
    else if onlyOffset then [{ code := "roblox_manual_fromscale_or_fromoffset", primary := sp, msg := "this UDim2.new call only sets offset, and can be simplified using UDim2.fromOffset" }]
    else if onlyScale then [{ code := "roblox_manual_fromscale_or_fromoffset", primary := sp, msg := "this UDim2.new call only sets scale, and can be simplified using UDim2.fromScale" }]
    else []
  | _ => []

def hook : Node → List Diag
  | .call c =>
    (match ctorArgs "Color3" c with | some es => color3Args es | none => []) ++
    (match ctorArgs "UDim2" c with | some es => udim2Suspicious c.span es ++ udim2Manual c.span es | none => [])
  | _ => []

/-- the three lints under a Roblox library -/
def lint (b : Block) : List Diag := runLint hook b

/-- **a `Color3.new` argument is reported only if it is a numeric literal (optionally negated) — never a variable, whatever
its name — whose value lies outside 0..1** -/
theorem color3_sound : (es : ExprList) → (g : Diag) → g ∈ color3Args es →
    ∃ e ∈ es.toList, g.primary = e.span ∧ ∃ z, literalFacts e = some (false, z)
  | .nil, g, h => nomatch h
  | .cons e rest, g, h => by
    rcases List.mem_append.mp h with h | h
    · refine ⟨e, .head _, ?_⟩
      split at h
      · rename_i z hl
        exact ⟨List.mem_singleton.mp h ▸ rfl, z, hl⟩
      · cases h
    · obtain ⟨e', he', hp⟩ := color3_sound rest g h
      exact ⟨e', .tail _ he', hp⟩

theorem variable_has_no_value (v : Var) : literalFacts (.var v) = none := rfl

/-- two fractions with the same value stand on the same side of every threshold `m / k` -/
theorem cross_le (a b c d k m : Nat) (h : a * d = c * b) (hb : 0 < b) (hd : 0 < d) :
    a * k ≤ m * b ↔ c * k ≤ m * d := by
  rw [← Nat.mul_le_mul_right_iff hd, ← Nat.mul_le_mul_right_iff (n := c * k) hb,
    Nat.mul_right_comm a k d, h, Nat.mul_right_comm c b k, Nat.mul_right_comm m b d]

/-- **by value**: two numerals that Rust's float grammar accepts and that denote the same rational are judged alike,
however they are spelled (`1`, `1.0`, `10e-1`, `0.1e1`) -/
theorem literalFacts_by_value (t₁ t₂ : Tok) (v₁ v₂ : NumVal)
    (h₁ : decimalValue t₁.text.toList = some v₁) (h₂ : decimalValue t₂.text.toList = some v₂)
    (he : v₁.num * v₂.den = v₂.num * v₁.den) (hd₁ : 0 < v₁.den) (hd₂ : 0 < v₂.den) :
    literalFacts (.num t₁) = literalFacts (.num t₂) := by
  have a := cross_le v₁.num v₁.den v₂.num v₂.den (2 ^ 24) (2 ^ 24 + 1) he hd₁ hd₂
  have b := cross_le v₁.num v₁.den v₂.num v₂.den (2 ^ 150) 1 he hd₁ hd₂
  rw [Nat.one_mul, Nat.one_mul] at b
  simp only [literalFacts, h₁, h₂, Option.map_some, NumVal.f32LeOne, f32IsZero, a, b]

end Selene.Lints.Roblox
