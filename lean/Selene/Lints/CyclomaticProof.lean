/-
`high_cyclomatic_complexity`: the threaded accumulator is a sum.  `Doc.pts*` counts, without any
accumulator, the decision points (`if`, `elseif`, `while`, `repeat`, `for`, `and`, `or`) in the parts of a
function body the walk reaches; `count_block_complexity(b, c) = c + pts b` (`countB_eq`), so the complexity of a
function is `1 +` that number.  The `example` at the end records what the walk does not reach.
-/
import Selene.Lints.Cyclomatic
namespace Selene.Lints.Cyclomatic
open Selene.Lua Selene.Lints

namespace Doc
mutual
def ptsE : Expr → Nat
  | .bin _ l op r => (if isAndOr op then 1 else 0) + ptsE l + ptsE r
  | .paren _ e => ptsE e
  | .un _ _ e => ptsE e
  | .func _ _ _ => 0
  | .call (.mk _ p ss) => ptsPfx p + ptsSS ss
  | .tbl _ fs => ptsFL fs
  | .var (.expr _ _ ss) => ptsSS ss
  | _ => 0
def ptsPfx : Prefix → Nat
  | .expr e => ptsE e
  | .name _ => 0
def ptsSS : SuffixList → Nat
  | .nil => 0
  | .cons s rest => ptsSf s + ptsSS rest
def ptsSf : Suffix → Nat
  | .idx _ e => ptsE e
  | .dot _ _ => 0
  | .args _ a => ptsA a
  | .meth _ _ a => ptsA a
  | .unsupported _ => 0
def ptsA : Args → Nat
  | .parens _ es => ptsEL es
  | .tbl _ fs => ptsFL fs
  | .str _ _ _ => 0
def ptsEL : ExprList → Nat
  | .nil => 0
  | .cons e rest => ptsE e + ptsEL rest
def ptsFL : FieldList → Nat
  | .nil => 0
  | .cons f rest => ptsF f + ptsFL rest
def ptsF : Field → Nat
  | .exprKey _ k v => ptsE k + ptsE v
  | .nameKey _ _ v => ptsE v
  | .noKey v => ptsE v
  | .unsupported _ => 0
end

def ptsVL : VarList → Nat
  | .nil => 0
  | .cons (.expr _ _ ss) rest => ptsSS ss + ptsVL rest
  | .cons (.name _) rest => ptsVL rest

mutual
def ptsB : Block → Nat
  | .mk _ stmts last => ptsSL stmts + (match last with | .ret _ es => ptsEL es | _ => 0)
def ptsSL : StmtList → Nat
  | .nil => 0
  | .cons s rest => ptsS s + ptsSL rest
def ptsS : Stmt → Nat
  | .assign _ vs es => ptsVL vs + ptsEL es
  | .do_ _ b => ptsB b
  | .call (.mk _ p ss) => ptsPfx p + ptsSS ss
  | .func _ _ _ => 0
  | .genFor _ _ es b => 1 + ptsEL es + ptsB b
  | .if_ _ cond b elifs _ => 1 + ptsE cond + ptsB b + ptsEIL elifs
  | .localAssign _ _ es => ptsEL es
  | .localFunc _ _ _ => 0
  | .numFor _ _ _ a e st b => 1 + ptsE a + ptsE e + (match st with | .some s => ptsE s | .none => 0) + ptsB b
  | .repeat_ _ b cond => 1 + ptsE cond + ptsB b
  | .while_ _ cond b => 1 + ptsE cond + ptsB b
  | .unsupported _ => 0
def ptsEIL : ElseIfList → Nat
  | .nil => 0
  | .cons (.mk _ cond b) rest => 1 + ptsE cond + ptsB b + ptsEIL rest
end
end Doc

open Doc

theorem thread {f g : Nat → Nat} {a b : Nat} (hf : ∀ c, f c = c + a) (hg : ∀ c, g c = c + b) (c : Nat) :
    g (f c) = c + (a + b) := by
  rw [hg, hf, Nat.add_assoc]

/-- a decision point, `(· + 1)`, in the form `thread` takes -/
theorem bump (c : Nat) : c + 1 = c + 1 := rfl

theorem bumpIf (b : Bool) (c : Nat) : (if b then c + 1 else c) = c + (if b then 1 else 0) := by
  cases b <;> rfl

mutual
theorem countE_eq : (e : Expr) → (c : Nat) → countE e c = c + ptsE e
  | .bin _ l op r, c => thread (thread (bumpIf (isAndOr op)) (countE_eq l)) (countE_eq r) c
  | .paren _ e, c => countE_eq e c
  | .un _ _ e, c => countE_eq e c
  | .func _ _ _, _ => rfl
  | .call (.mk _ p ss), c => thread (countPfx_eq p) (countSS_eq ss) c
  | .tbl _ fs, c => countFL_eq fs c
  | .var (.expr _ _ ss), c => countSS_eq ss c
  | .var (.name _), _ => rfl
  | .nil _, _ => rfl
  | .true_ _, _ => rfl
  | .false_ _, _ => rfl
  | .dots _, _ => rfl
  | .num _, _ => rfl
  | .str _ _ _, _ => rfl
  | .unsupported _, _ => rfl
theorem countPfx_eq : (p : Prefix) → (c : Nat) → countPfx p c = c + ptsPfx p
  | .expr e, c => countE_eq e c
  | .name _, _ => rfl
theorem countSS_eq : (ss : SuffixList) → (c : Nat) → countSS ss c = c + ptsSS ss
  | .nil, _ => rfl
  | .cons s rest, c => thread (countSf_eq s) (countSS_eq rest) c
theorem countSf_eq : (s : Suffix) → (c : Nat) → countSf s c = c + ptsSf s
  | .idx _ e, c => countE_eq e c
  | .dot _ _, _ => rfl
  | .args _ a, c => countA_eq a c
  | .meth _ _ a, c => countA_eq a c
  | .unsupported _, _ => rfl
theorem countA_eq : (a : Args) → (c : Nat) → countA a c = c + ptsA a
  | .parens _ es, c => countEL_eq es c
  | .tbl _ fs, c => countFL_eq fs c
  | .str _ _ _, _ => rfl
theorem countEL_eq : (es : ExprList) → (c : Nat) → countEL es c = c + ptsEL es
  | .nil, _ => rfl
  | .cons e rest, c => thread (countE_eq e) (countEL_eq rest) c
theorem countFL_eq : (fs : FieldList) → (c : Nat) → countFL fs c = c + ptsFL fs
  | .nil, _ => rfl
  | .cons f rest, c => thread (countF_eq f) (countFL_eq rest) c
theorem countF_eq : (f : Field) → (c : Nat) → countF f c = c + ptsF f
  | .exprKey _ k v, c => thread (countE_eq k) (countE_eq v) c
  | .nameKey _ _ v, c => countE_eq v c
  | .noKey v, c => countE_eq v c
  | .unsupported _, _ => rfl
end

theorem countVL_eq : (vs : VarList) → (c : Nat) → countVL vs c = c + ptsVL vs
  | .nil, _ => rfl
  | .cons (.expr _ _ ss) rest, c => thread (countSS_eq ss) (countVL_eq rest) c
  | .cons (.name _) rest, c => countVL_eq rest c

mutual
theorem countB_eq : (b : Block) → (c : Nat) → countB b c = c + ptsB b
  | .mk _ stmts (.ret _ es), c => thread (countSL_eq stmts) (countEL_eq es) c
  | .mk _ stmts .none, c => countSL_eq stmts c
  | .mk _ stmts (.brk _), c => countSL_eq stmts c
theorem countSL_eq : (ss : StmtList) → (c : Nat) → countSL ss c = c + ptsSL ss
  | .nil, _ => rfl
  | .cons s rest, c => thread (countS_eq s) (countSL_eq rest) c
theorem countS_eq : (s : Stmt) → (c : Nat) → countS s c = c + ptsS s
  | .assign _ vs es, c => thread (countVL_eq vs) (countEL_eq es) c
  | .do_ _ b, c => countB_eq b c
  | .call (.mk _ p ss), c => thread (countPfx_eq p) (countSS_eq ss) c
  | .func _ _ _, _ => rfl
  | .genFor _ _ es b, c => thread (thread bump (countEL_eq es)) (countB_eq b) c
  | .if_ _ cond b elifs _, c => thread (thread (thread bump (countE_eq cond)) (countB_eq b)) (countEIL_eq elifs) c
  | .localAssign _ _ es, c => countEL_eq es c
  | .localFunc _ _ _, _ => rfl
  | .numFor _ _ _ a e (.some s) b, c =>
    thread (thread (thread (thread bump (countE_eq a)) (countE_eq e)) (countE_eq s)) (countB_eq b) c
  | .numFor _ _ _ a e .none b, c => thread (thread (thread bump (countE_eq a)) (countE_eq e)) (countB_eq b) c
  | .repeat_ _ b cond, c => thread (thread bump (countE_eq cond)) (countB_eq b) c
  | .while_ _ cond b, c => thread (thread bump (countE_eq cond)) (countB_eq b) c
  | .unsupported _, _ => rfl
theorem countEIL_eq : (es : ElseIfList) → (c : Nat) → countEIL es c = c + ptsEIL es
  | .nil, _ => rfl
  | .cons (.mk _ cond b) rest, c =>
    thread (thread (thread bump (countE_eq cond)) (countB_eq b)) (countEIL_eq rest) c
end

/-- **the complexity of a function is one plus the number of decision points its body's walk reaches** -/
theorem complexity_eq (sp : Span) (ps : List Param) (b : Block) : complexity (.mk sp ps b) = 1 + ptsB b :=
  countB_eq b 1

/-- a function is reported exactly when that number reaches the configured maximum -/
theorem reported_iff (max start : Nat) (sp : Span) (ps : List Param) (b : Block) :
    diagOf max start (.mk sp ps b) ≠ [] ↔ ptsB b ≥ max := by
  have fires : diagOf max start (.mk sp ps b) ≠ [] ↔ complexity (.mk sp ps b) > max := by
    unfold diagOf
    split <;> simp [*]
  rw [fires, complexity_eq]
  omega

/-- what the walk does not reach: the `else` block of an `if` (here `if a then else if b then end end`, tokens
abstracted) contributes nothing -/
example :
    let inner : Stmt := .if_ ⟨4, 7⟩ (.var (.name ⟨5, "b"⟩)) (.mk none .nil .none) .nil .none
    let outer : Stmt := .if_ ⟨0, 8⟩ (.var (.name ⟨1, "a"⟩)) (.mk none .nil .none) .nil (.some (.mk none (.cons inner .nil) .none))
    ptsS outer = 1 ∧ ptsS inner = 1 := by decide

end Selene.Lints.Cyclomatic
