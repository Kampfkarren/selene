/- The two lints of `visit_table_constructor`: mixed_table (the loop reports exactly the first change of
kind) and duplicate_keys, soundness (every key in `declared` is the value of an earlier field; the
converse invariant is in `DupKeysComplete.lean`). -/
import Selene.Lints.LemmasA
import Selene.Lints.DuplicateKeys
import Selene.Lints.MixedTable
namespace Selene.Lints
open Selene.Lua

theorem MixedTable.fields_cons (f : Field) (rest : FieldList) (lk lnk : Option Nat) :
    MixedTable.fields (.cons f rest) lk lnk =
      match (if Doc.isNoKey f then lk else lnk) with
      | some k => [MixedTable.diag k (Doc.fieldSpan f).last]
      | none =>
        if Doc.isNoKey f then MixedTable.fields rest lk (some (Doc.fieldSpan f).first)
        else MixedTable.fields rest (some (Doc.fieldSpan f).first) lnk := by
  cases f <;> rfl

/-- the loop state after a run of fields of one kind that ends with `f` -/
def MixedTable.after (f : Field) : Option Nat × Option Nat :=
  if Doc.isNoKey f then (none, some (Doc.fieldSpan f).first) else (some (Doc.fieldSpan f).first, none)

def MixedTable.ofExpect (x : Expect) : Diag := MixedTable.diag x.primary.first x.primary.last

theorem MixedTable.fields_canon : (rest : FieldList) → (f : Field) →
    MixedTable.fields rest (MixedTable.after f).1 (MixedTable.after f).2 =
      (ByValue.firstMixed (f :: rest.toList)).map MixedTable.ofExpect
  | .nil, f => rfl
  | .cons f' rest, f => by
    rw [MixedTable.fields_cons]
    show _ = (ByValue.firstMixed (f :: f' :: rest.toList)).map MixedTable.ofExpect
    rw [ByValue.firstMixed, apply_ite (List.map MixedTable.ofExpect), ← MixedTable.fields_canon rest f']
    unfold MixedTable.after
    cases Doc.isNoKey f <;> cases Doc.isNoKey f' <;> rfl

theorem MixedTable.hook_table (sp : Span) (fs : FieldList) :
    MixedTable.hook (.table sp fs) = (ByValue.firstMixed fs.toList).map MixedTable.ofExpect := by
  cases fs with
  | nil => rfl
  | cons f rest =>
    show MixedTable.fields (.cons f rest) none none = (ByValue.firstMixed (f :: rest.toList)).map MixedTable.ofExpect
    rw [← MixedTable.fields_canon, MixedTable.fields_cons]
    unfold MixedTable.after
    cases Doc.isNoKey f <;> rfl

theorem ByValue.firstMixed_sound (l : List Field) (x : Expect) (h : x ∈ ByValue.firstMixed l) :
    x.subStart = none ∧ ∀ g : Diag, g.primary = x.primary → Doc.mixedPairs l g = true := by
  fun_induction ByValue.firstMixed l with
  | case1 f f' rest hk =>
    cases List.mem_singleton.mp h
    exact ⟨rfl, fun g hg => by simp [Doc.mixedPairs, hk, hg]⟩
  | case2 f f' rest hk ih =>
    obtain ⟨h1, h2⟩ := ih h
    exact ⟨h1, fun g hg => by rw [Doc.mixedPairs, h2 g hg, Bool.or_true]⟩
  | case3 => cases h

theorem MixedTable.hook_sound (n : Node) (g : Diag) (h : g ∈ MixedTable.hook n) : Doc.mixedTable n g = true := by
  cases n with
  | table sp fs =>
    rw [MixedTable.hook_table, List.mem_map] at h
    obtain ⟨x, hx, rfl⟩ := h
    exact (ByValue.firstMixed_sound _ x hx).2 _ rfl
  | _ => cases h

theorem MixedTable.hook_canon (n : Node) (x : Expect) (hx : x ∈ Canon.mixedTable n) :
    ∃ g ∈ MixedTable.hook n, x.matches g = true := by
  unfold Canon.mixedTable ByValue.mixedTable at hx
  split at hx
  · refine ⟨MixedTable.ofExpect x, ?_, ?_⟩
    · rw [MixedTable.hook_table]
      exact List.mem_map_of_mem hx
    · exact Expect.matches_of rfl (ByValue.firstMixed_sound _ x hx).1
  · cases hx

/-- the hypothesis that excludes the defect (raw text compared across quote kinds): a long-bracket
string key contains no backslash and does not start with a line break, so that its raw text is its
value; names contain no backslash (true of every identifier) -/
def plainKey : Field → Bool
  | .nameKey _ k _ => !k.text.toList.contains '\\'
  | .exprKey _ (.str _ q lit) _ =>
    q != .brackets || (!lit.toList.contains '\\' && lit.toList.head? != some '\n' && lit.toList.head? != some '\r')
  | _ => true

def plainKeys : Node → Bool
  | .table _ fs => fs.toList.all plainKey
  | _ => true

theorem unesc_plain : (cs : List Char) → cs.contains '\\' = false → unesc .normal cs = bytesOf cs
  | [], _ => rfl
  | c :: cs, h => by
    simp only [List.contains_cons, Bool.or_eq_false_iff, beq_eq_false_iff_ne, ne_eq] at h
    show (if c = '\\' then _ else charBytes c ++ unesc .normal cs) = charBytes c ++ bytesOf cs
    rw [if_neg (Ne.symm h.1), unesc_plain cs h.2]

theorem dropLeadingNewline_plain (cs : List Char) (h1 : cs.head? ≠ some '\n') (h2 : cs.head? ≠ some '\r') :
    dropLeadingNewline cs = cs := by
  unfold dropLeadingNewline
  split
  · exact absurd rfl h2
  · exact absurd rfl h1
  · exact absurd rfl h1
  · exact absurd rfl h2
  · rfl

/-- the value a key of the implementation denotes: the escapes of a string key are decoded (`DupKeysComplete.canonOfKey`
    reads a key as the canonical pattern spells it, without escapes) -/
def DuplicateKeys.valOf : DuplicateKeys.Key → Doc.KeyVal
  | ⟨.string, s⟩ => .str (unescape s.toList)
  | ⟨.number, s⟩ => .num s

theorem Doc.sameKey_refl (v : Doc.KeyVal) : Doc.sameKey v v = true := by
  cases v with
  | str a => exact beq_self_eq_true a
  | num a => exact Bool.or_eq_true_iff.mpr (.inl (beq_self_eq_true a))

theorem strValue_plain {q : QuoteKind} {lit : String}
    (hp : (q != .brackets || (!lit.toList.contains '\\' && lit.toList.head? != some '\n' && lit.toList.head? != some '\r')) = true) :
    strValue (q == .brackets) lit = unescape lit.toList := by
  unfold strValue
  cases hq : q == QuoteKind.brackets
  · rfl
  · simp only [bne, hq, Bool.not_true, Bool.false_or, Bool.and_eq_true, Bool.not_eq_true'] at hp
    obtain ⟨⟨h1, h2⟩, h3⟩ := hp
    rw [if_pos rfl, dropLeadingNewline_plain _ (by simpa using h2) (by simpa using h3), unescape, unesc_plain _ h1]

theorem DuplicateKeys.keyVals_cons {f : Field} (hp : plainKey f = true) (rest : FieldList) (i : Nat) :
    Doc.keyVals (.cons f rest) i =
      ((DuplicateKeys.fieldKey f i).1.map DuplicateKeys.valOf, DuplicateKeys.fieldRange f) :: Doc.keyVals rest (DuplicateKeys.fieldKey f i).2 := by
  cases f with
  | nameKey sp k v =>
    exact congrArg (fun b => (some (Doc.KeyVal.str b), sp) :: Doc.keyVals rest i)
      (unesc_plain _ ((Bool.not_eq_true' _).mp hp)).symm
  | exprKey sp k v =>
    cases k with
    | str t q lit => exact congrArg (fun b => (some (Doc.KeyVal.str b), sp) :: Doc.keyVals rest i) (strValue_plain hp)
    | _ => rfl
  | _ => rfl

theorem DuplicateKeys.lookup_mem {k : DuplicateKeys.Key} {decl : List (DuplicateKeys.Key × Span)} {sp : Span}
    (h : DuplicateKeys.lookupKey k decl = some sp) : (k, sp) ∈ decl := by
  fun_induction DuplicateKeys.lookupKey k decl with
  | case1 => cases h
  | case2 s rest =>
    cases h
    exact .head _
  | case3 k' s rest hk ih => exact .tail _ (ih h)

theorem Doc.dupPairs_cons (earlier : List (Option Doc.KeyVal × Span)) (k : Option Doc.KeyVal) (s : Span)
    (rest : List (Option Doc.KeyVal × Span)) (g : Diag) :
    Doc.dupPairs earlier ((k, s) :: rest) g = (Doc.dupHere earlier k s g || Doc.dupPairs (earlier ++ [(k, s)]) rest g) :=
  rfl

theorem DuplicateKeys.fields_cons (f : Field) (rest : FieldList) (declared : List (DuplicateKeys.Key × Span)) (i : Nat) :
    DuplicateKeys.fields (.cons f rest) declared i =
      match DuplicateKeys.fieldKey f i with
      | (some key, i') =>
        (match DuplicateKeys.lookupKey key declared with
        | some original =>
          { code := "duplicate_keys", primary := DuplicateKeys.fieldRange f, msg := DuplicateKeys.message key.name,
            secondary := [original] } :: DuplicateKeys.fields rest declared i'
        | none => DuplicateKeys.fields rest ((key, DuplicateKeys.fieldRange f) :: declared) i')
      | (none, i') => DuplicateKeys.fields rest declared i' := by
  rfl

theorem DuplicateKeys.fields_sound : (fs : FieldList) → (declared : List (DuplicateKeys.Key × Span)) →
    (earlier : List (Option Doc.KeyVal × Span)) → (i : Nat) →
    declared.map (fun d => (some (DuplicateKeys.valOf d.1), d.2)) ⊆ earlier →
    fs.toList.all plainKey = true → (g : Diag) → g ∈ DuplicateKeys.fields fs declared i →
    Doc.dupPairs earlier (Doc.keyVals fs i) g = true
  | .nil, _, _, _, _, _, g, h => nomatch h
  | .cons f rest, declared, earlier, i, hinv, hplain, g, h => by
    obtain ⟨hf, hrest⟩ := (Bool.and_eq_true _ _).mp hplain
    rw [DuplicateKeys.keyVals_cons hf, Doc.dupPairs_cons, Bool.or_eq_true]
    rw [DuplicateKeys.fields_cons] at h
    have hsnoc := fun e => List.subset_append_of_subset_left [e] hinv
    split at h
    · rename_i key i' hfk
      rw [hfk]
      split at h
      · rename_i original hl
        rcases List.mem_cons.mp h with rfl | h
        · have hm := hinv (List.mem_map_of_mem (DuplicateKeys.lookup_mem hl))
          have same : Doc.earlierSame (DuplicateKeys.valOf key) earlier (some original) = true :=
            List.any_eq_true.mpr ⟨_, hm, Bool.and_eq_true_iff.mpr ⟨Doc.sameKey_refl _, beq_self_eq_true _⟩⟩
          exact .inl (Bool.and_eq_true_iff.mpr ⟨beq_self_eq_true _, same⟩)
        · exact .inr (DuplicateKeys.fields_sound rest declared _ i' (hsnoc _) hrest g h)
      · exact .inr (DuplicateKeys.fields_sound rest _ _ i'
          (List.cons_subset.mpr ⟨List.mem_append_right _ (.head _), hsnoc _⟩) hrest g h)
    · rename_i i' hfk
      rw [hfk]
      exact .inr (DuplicateKeys.fields_sound rest declared _ i' (hsnoc _) hrest g h)

theorem DuplicateKeys.hook_sound (n : Node) (g : Diag) (h : g ∈ DuplicateKeys.hook n) (hp : plainKeys n = true) :
    Doc.duplicateKeys n g = true := by
  cases n with
  | table sp fs => exact DuplicateKeys.fields_sound fs [] [] 0 (List.nil_subset _) hp g h
  | _ => cases h

end Selene.Lints
