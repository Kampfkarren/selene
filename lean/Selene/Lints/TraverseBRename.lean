/-
The statement-level traversal commutes with a renaming of identifiers: the nodes of the renamed tree are the renamed nodes
of the tree, in the same order.
-/
import Selene.Lints.TraverseB
import Selene.Lua.Rename
namespace Selene.LintsB
open Selene.Lua

def Node.ren (ρ : String → String) : Node → Node
  | .block b => .block (b.ren ρ)
  | .stmt s => .stmt (s.ren ρ)
  | .last l => .last (l.ren ρ)
  | .call c => .call (c.ren ρ)

theorem map_app {α β : Type} {f : α → β} {a b : List α} {a' b' : List β} (ha : a' = a.map f) (hb : b' = b.map f) :
    a' ++ b' = (a ++ b).map f := by rw [ha, hb, List.map_append]

mutual
theorem nExpr_ren (ρ : String → String) : (e : Expr) → nExpr (e.ren ρ) = (nExpr e).map (Node.ren ρ)
  | .func _ _ body => nBody_ren ρ body
  | .paren _ e => nExpr_ren ρ e
  | .un _ _ e => nExpr_ren ρ e
  | .bin _ l _ r => map_app (nExpr_ren ρ l) (nExpr_ren ρ r)
  | .tbl _ fs => nFields_ren ρ fs
  | .var v => nVar_ren ρ v
  | .call c => nFCall_ren ρ c
  | .nil _ | .true_ _ | .false_ _ | .dots _ | .num _ | .str _ _ _ | .unsupported _ => rfl
theorem nExprs_ren (ρ : String → String) : (es : ExprList) → nExprs (es.ren ρ) = (nExprs es).map (Node.ren ρ)
  | .nil => rfl
  | .cons e rest => map_app (nExpr_ren ρ e) (nExprs_ren ρ rest)
theorem nVar_ren (ρ : String → String) : (v : Var) → nVar (v.ren ρ) = (nVar v).map (Node.ren ρ)
  | .name _ => rfl
  | .expr _ p ss => map_app (nPrefix_ren ρ p) (nSuffixes_ren ρ ss)
theorem nVars_ren (ρ : String → String) : (vs : VarList) → nVars (vs.ren ρ) = (nVars vs).map (Node.ren ρ)
  | .nil => rfl
  | .cons v rest => map_app (nVar_ren ρ v) (nVars_ren ρ rest)
theorem nPrefix_ren (ρ : String → String) : (p : Prefix) → nPrefix (p.ren ρ) = (nPrefix p).map (Node.ren ρ)
  | .name _ => rfl
  | .expr e => nExpr_ren ρ e
theorem nSuffix_ren (ρ : String → String) : (s : Suffix) → nSuffix (s.ren ρ) = (nSuffix s).map (Node.ren ρ)
  | .dot _ _ => rfl
  | .idx _ e => nExpr_ren ρ e
  | .args _ a => nArgs_ren ρ a
  | .meth _ _ a => nArgs_ren ρ a
  | .unsupported _ => rfl
theorem nSuffixes_ren (ρ : String → String) : (ss : SuffixList) → nSuffixes (ss.ren ρ) = (nSuffixes ss).map (Node.ren ρ)
  | .nil => rfl
  | .cons s rest => map_app (nSuffix_ren ρ s) (nSuffixes_ren ρ rest)
theorem nArgs_ren (ρ : String → String) : (a : Args) → nArgs (a.ren ρ) = (nArgs a).map (Node.ren ρ)
  | .parens _ es => nExprs_ren ρ es
  | .str _ _ _ => rfl
  | .tbl _ fs => nFields_ren ρ fs
theorem nFCall_ren (ρ : String → String) : (c : FCall) → nFCall (c.ren ρ) = (nFCall c).map (Node.ren ρ)
  | .mk _ p ss => congrArg (_ :: ·) (map_app (nPrefix_ren ρ p) (nSuffixes_ren ρ ss))
theorem nField_ren (ρ : String → String) : (f : Field) → nField (f.ren ρ) = (nField f).map (Node.ren ρ)
  | .exprKey _ k v => map_app (nExpr_ren ρ k) (nExpr_ren ρ v)
  | .nameKey _ _ v => nExpr_ren ρ v
  | .noKey v => nExpr_ren ρ v
  | .unsupported _ => rfl
theorem nFields_ren (ρ : String → String) : (fs : FieldList) → nFields (fs.ren ρ) = (nFields fs).map (Node.ren ρ)
  | .nil => rfl
  | .cons f rest => map_app (nField_ren ρ f) (nFields_ren ρ rest)
theorem nBody_ren (ρ : String → String) : (b : FuncBody) → nBody (b.ren ρ) = (nBody b).map (Node.ren ρ)
  | .mk _ _ b => nBlock_ren ρ b
theorem nStmt_ren (ρ : String → String) : (s : Stmt) → nStmt (s.ren ρ) = (nStmt s).map (Node.ren ρ)
  | .assign _ vs es => map_app (nVars_ren ρ vs) (nExprs_ren ρ es)
  | .localAssign _ _ es => nExprs_ren ρ es
  | .call c => nFCall_ren ρ c
  | .do_ _ b => nBlock_ren ρ b
  | .while_ _ c b => map_app (nExpr_ren ρ c) (nBlock_ren ρ b)
  | .repeat_ _ b c => map_app (nBlock_ren ρ b) (nExpr_ren ρ c)
  | .if_ _ c b elifs els =>
    map_app (nExpr_ren ρ c) (map_app (nBlock_ren ρ b) (map_app (nElseIfs_ren ρ elifs) (nOptBlock_ren ρ els)))
  | .numFor _ _ _ a e st b =>
    map_app (nExpr_ren ρ a) (map_app (nExpr_ren ρ e) (map_app (nOptExpr_ren ρ st) (nBlock_ren ρ b)))
  | .genFor _ _ es b => map_app (nExprs_ren ρ es) (nBlock_ren ρ b)
  | .func _ _ body => nBody_ren ρ body
  | .localFunc _ _ body => nBody_ren ρ body
  | .unsupported _ => rfl
theorem nStmts_ren (ρ : String → String) : (ss : StmtList) → nStmts (ss.ren ρ) = (nStmts ss).map (Node.ren ρ)
  | .nil => rfl
  | .cons s rest => congrArg (_ :: ·) (map_app (nStmt_ren ρ s) (nStmts_ren ρ rest))
theorem nElseIf_ren (ρ : String → String) : (e : ElseIf) → nElseIf (e.ren ρ) = (nElseIf e).map (Node.ren ρ)
  | .mk _ c b => map_app (nExpr_ren ρ c) (nBlock_ren ρ b)
theorem nElseIfs_ren (ρ : String → String) : (es : ElseIfList) → nElseIfs (es.ren ρ) = (nElseIfs es).map (Node.ren ρ)
  | .nil => rfl
  | .cons e rest => map_app (nElseIf_ren ρ e) (nElseIfs_ren ρ rest)
theorem nOptBlock_ren (ρ : String → String) : (o : OptBlock) → nOptBlock (o.ren ρ) = (nOptBlock o).map (Node.ren ρ)
  | .none => rfl
  | .some b => nBlock_ren ρ b
theorem nOptExpr_ren (ρ : String → String) : (o : OptExpr) → nOptExpr (o.ren ρ) = (nOptExpr o).map (Node.ren ρ)
  | .none => rfl
  | .some e => nExpr_ren ρ e
theorem nLast_ren (ρ : String → String) : (l : LastStmt) → nLast (l.ren ρ) = (nLast l).map (Node.ren ρ)
  | .none => rfl
  | .ret _ es => congrArg (_ :: ·) (nExprs_ren ρ es)
  | .brk _ => rfl
theorem nBlock_ren (ρ : String → String) : (b : Block) → nBlock (b.ren ρ) = (nBlock b).map (Node.ren ρ)
  | .mk _ ss l => congrArg (_ :: ·) (map_app (nStmts_ren ρ ss) (nLast_ren ρ l))
end

end Selene.LintsB
