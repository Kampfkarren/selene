/- The lints that judge a numeral: the Rust predicates on a number token's text are the by-value tests on
`numValue`.  `Value.lean` models Rust's `parse::<f64>` as a test on `decimalValue`, so on decimal text the two
agree by definition; the content is the `0x` branch: Rust's tests on the digits (all `0`; a `u64` that is
`≤ 1`) against the value `readHexDigits` computes. -/
import Selene.Lints.LemmasA
import Selene.Lints.DivideByZero
import Selene.Lints.CompareNan
import Selene.Lints.SuspiciousReverseLoop
namespace Selene.Lints
open Selene.Lua

def zeroText (text : String) : Bool :=
  match numValue text with
  | some v => v.denotesZero
  | none => false

def leOneText (text : String) : Bool :=
  match numValue text with
  | some v => v.denotesLeOne
  | none => false

theorem decimalValue_hexPrefix {x : Char} (hx : (x = 'x' || x = 'X') = true) (r : List Char) :
    decimalValue ('0' :: x :: r) = none := by
  rcases (by simpa using hx : x = 'x' ∨ x = 'X') with rfl | rfl <;> rfl

theorem numValue_hex {text : String} {x : Char} {hex : List Char} (h : text.toList = '0' :: x :: hex)
    (hx : (x = 'x' || x = 'X') = true) : numValue text = hexValue ('0' :: x :: hex) := by
  unfold numValue
  rw [h, decimalValue_hexPrefix hx]
  cases hexValue ('0' :: x :: hex) <;> rfl

theorem numValue_dec {text : String} (h : hexValue text.toList = none) : numValue text = decimalValue text.toList := by
  unfold numValue
  rw [h]

theorem hexValue_no_x {x : Char} (hx : ¬ (x = 'x' || x = 'X') = true) (hex : List Char) :
    hexValue ('0' :: x :: hex) = none :=
  if_neg hx

theorem hexValue_x {x : Char} (hx : (x = 'x' || x = 'X') = true) (hex : List Char) :
    hexValue ('0' :: x :: hex) =
      match readHexDigits hex 0 0 with
      | (v, n, rest) => if n = 0 || !rest.isEmpty then none else some ⟨v, 1⟩ :=
  if_pos hx

theorem hexValue_no_prefix {cs : List Char} (h : ∀ x hex, cs = '0' :: x :: hex → False) : hexValue cs = none := by
  unfold hexValue
  split
  · exact (h _ _ rfl).elim
  · rfl

theorem decimal_none_of_hex (cs : List Char) (w : NumVal) (h : hexValue cs = some w) : decimalValue cs = none := by
  unfold hexValue at h
  split at h
  · rename_i x r
    split at h
    · rename_i hx
      exact decimalValue_hexPrefix hx r
    · cases h
  · cases h

theorem numValue_of_decimal (text : String) (v : NumVal) (h : decimalValue text.toList = some v) : numValue text = some v := by
  unfold numValue
  cases hh : hexValue text.toList with
  | none => exact h
  | some w => rw [decimal_none_of_hex _ w hh] at h; cases h

theorem hexValue_test {x : Char} (hx : (x = 'x' || x = 'X') = true) (hex : List Char) (p : NumVal → Bool) :
    (match hexValue ('0' :: x :: hex) with | some v => p v | none => false) =
      ((readHexDigits hex 0 0).2.1 != 0 && (readHexDigits hex 0 0).2.2.isEmpty && p ⟨(readHexDigits hex 0 0).1, 1⟩) := by
  rw [hexValue_x hx]
  generalize readHexDigits hex 0 0 = rd
  obtain ⟨v, n, rest⟩ := rd
  cases n <;> cases rest <;> rfl

theorem hexVal_eq_zero (c : Char) (hc : isHex c = true) (h : hexVal c = 0) : c = '0' := by
  -- `0`–`9` ↦ `c - 48`, `a`–`f` ↦ `c - 87`, `A`–`F` ↦ `c - 55`: only the first range reaches `0`, at code point 48
  have le (a b : Char) : a ≤ b ↔ a.toNat ≤ b.toNat := UInt32.le_iff_toNat_le
  simp only [isHex, isDec, hexVal, Bool.or_eq_true, Bool.and_eq_true, decide_eq_true_eq, le, Char.reduceToNat,
    apply_ite (· = 0), Nat.sub_eq_zero_iff_le] at hc h
  apply Char.toNat_inj.mp
  show c.toNat = 48
  split at h
  · omega
  · split at h <;> omega

theorem readHex_zero : (r : List Char) → (acc n : Nat) →
    ((readHexDigits r acc n).2.1 != 0 && (readHexDigits r acc n).2.2.isEmpty && decide ((readHexDigits r acc n).1 = 0)) =
      ((n != 0 || !r.isEmpty) && decide (acc = 0) && r.all (· == '0'))
  | [], acc, n => by
    show (n != 0 && true && decide (acc = 0)) = ((n != 0 || false) && decide (acc = 0) && true)
    rw [Bool.and_true, Bool.and_true, Bool.or_false]
  | c :: cs, acc, n => by
    rw [readHexDigits]
    by_cases hc : isHex c = true
    · have : acc * 16 + hexVal c = 0 ↔ acc = 0 ∧ c = '0' := by
        rw [Nat.add_eq_zero_iff, Nat.mul_eq_zero, or_iff_left (by decide : 16 ≠ 0)]
        exact and_congr_right' ⟨hexVal_eq_zero c hc, fun h => h ▸ rfl⟩
      have : decide (acc * 16 + hexVal c = 0) = (decide (acc = 0) && c == '0') :=
        (decide_eq_decide.mpr this).trans (Bool.decide_and ..)
      rw [if_pos hc, readHex_zero cs, this]
      simp [Bool.and_assoc]
    · have : c ≠ '0' := fun h => hc (h ▸ by decide)
      rw [if_neg hc]
      simp [this]

theorem readHex_count : (r : List Char) → (acc n : Nat) → n ≤ (readHexDigits r acc n).2.1
  | [], _, n => Nat.le_refl n
  | c :: cs, acc, n => by
    rw [readHexDigits]
    split
    · exact Nat.le_trans (Nat.le_succ n) (readHex_count cs _ _)
    · exact Nat.le_refl n

theorem denotesZero_int (v : Nat) : (⟨v, 1⟩ : NumVal).denotesZero = decide (v = 0) := by
  have (k : Nat) (hk : k ≠ 0) : v * 2 ^ k ≤ 1 ↔ v = 0 := by
    rw [← Nat.le_div_iff_mul_le (Nat.two_pow_pos k), Nat.div_eq_of_lt (Nat.one_lt_two_pow hk), Nat.le_zero]
  exact decide_eq_decide.mpr (this 1075 (by decide))

theorem numberIsZero_eq (text : String) : numberIsZero text = zeroText text := by
  have dec : ∀ cs, rustF64IsZero cs = match decimalValue cs with | some v => v.denotesZero | none => false := by
    intro cs
    unfold rustF64IsZero
    cases decimalValue cs <;> rfl
  unfold numberIsZero zeroText
  split
  · rename_i x hex hcs
    split
    · rename_i hx
      rw [numValue_hex hcs hx, hexValue_test hx, denotesZero_int, readHex_zero]
      show _ = ((false || !hex.isEmpty) && true && _)
      rw [Bool.false_or, Bool.and_true]
    · rename_i hx
      rw [numValue_dec (hcs ▸ hexValue_no_x hx hex), hcs, dec]
  · rename_i hne
    rw [numValue_dec (hexValue_no_prefix hne), dec]

theorem zeroLit_num (t : Tok) : zeroLit (.num t) = zeroText t.text := by rfl

theorem zeroLit_of_spelled {e : Expr} (h : spelled "0" e = true) : zeroLit e = true := by
  cases e with
  | num t =>
    have zero : numValue "0" = some ⟨0, 1⟩ := by decide
    rw [zeroLit_num, eq_of_beq h]
    simp [zeroText, zero, denotesZero_int]
  | _ => cases h

theorem DivideByZero.valueIsZero_eq (e : Expr) : DivideByZero.valueIsZero e = zeroLit e := by
  cases e with
  | num t => exact numberIsZero_eq t.text
  | _ => rfl

theorem DivideByZero.hook_bin (sp : Span) (l r : Expr) (op : Tok) :
    DivideByZero.hook (.expr (.bin sp l op r)) =
      if op.text == "/" && zeroLit r && !zeroLit l then
        [{ code := "divide_by_zero", primary := sp, msg := DivideByZero.message }]
      else [] := by
  rw [Bool.and_assoc, ← DivideByZero.valueIsZero_eq, ← DivideByZero.valueIsZero_eq]
  rfl

theorem DivideByZero.hook_sound (n : Node) (g : Diag) (h : g ∈ DivideByZero.hook n) :
    Doc.divideByZero n g = true := by
  unfold DivideByZero.hook at h
  split at h
  · rw [DivideByZero.valueIsZero_eq, DivideByZero.valueIsZero_eq, List.mem_ite_nil_right, List.mem_singleton] at h
    obtain ⟨hc, rfl⟩ := h
    simpa [Doc.divideByZero, Bool.and_assoc] using hc
  · cases h

theorem DivideByZero.hook_byValue (n : Node) (x : Expect) (hx : x ∈ ByValue.divideByZero n) :
    ∃ g ∈ DivideByZero.hook n, x.matches g = true := by
  unfold ByValue.divideByZero at hx
  split at hx
  · rw [List.mem_ite_nil_right, List.mem_singleton] at hx
    obtain ⟨hc, rfl⟩ := hx
    rw [DivideByZero.hook_bin, if_pos hc]
    exact ⟨_, .head _, Expect.matches_of rfl rfl⟩
  · cases hx

theorem Canon.divideByZero_sub (n : Node) (x : Expect) (hx : x ∈ Canon.divideByZero n) : x ∈ ByValue.divideByZero n := by
  unfold Canon.divideByZero at hx
  split at hx
  · simp only [ByValue.divideByZero, List.mem_ite_nil_right, Bool.and_eq_true] at hx ⊢
    exact ⟨⟨⟨hx.1.1.1, zeroLit_of_spelled hx.1.1.2⟩, hx.1.2⟩, hx.2⟩
  · cases hx

theorem DivideByZero.hook_canon (n : Node) (x : Expect) (hx : x ∈ Canon.divideByZero n) :
    ∃ g ∈ DivideByZero.hook n, x.matches g = true :=
  DivideByZero.hook_byValue n x (Canon.divideByZero_sub n x hx)

-- the model defines `valueIsZero` once per lint, with the same text
theorem CompareNan.valueIsZero_eq (e : Expr) : CompareNan.valueIsZero e = zeroLit e :=
  DivideByZero.valueIsZero_eq e

theorem CompareNan.isVar_eq (e : Expr) : CompareNan.isVar e = ByValue.isVar e := rfl

theorem CompareNan.expressionIsNan_bin (sp : Span) (a b : Expr) (dv : Tok) :
    CompareNan.expressionIsNan (.bin sp a dv b) = (dv.text == "/" && (zeroLit a && zeroLit b)) := by
  rw [← CompareNan.valueIsZero_eq, ← CompareNan.valueIsZero_eq]
  rfl

theorem CompareNan.hook_bin (sp : Span) (l r : Expr) (op : Tok) :
    CompareNan.hook (.expr (.bin sp l op r)) =
      if ByValue.isVar l && (op.text == "==" || op.text == "~=") && CompareNan.expressionIsNan r then
        [{ code := "compare_nan", primary := sp, msg := CompareNan.message }]
      else [] := by
  rw [← CompareNan.isVar_eq]
  simp only [CompareNan.hook]
  cases CompareNan.isVar l <;> cases op.text == "~=" <;> cases op.text == "==" <;>
    cases CompareNan.expressionIsNan r <;> rfl

theorem CompareNan.hook_sound (n : Node) (g : Diag) (h : g ∈ CompareNan.hook n) : Doc.compareNan n g = true := by
  unfold CompareNan.hook at h
  split at h
  · replace h : g ∈ CompareNan.hook (.expr (.bin _ _ _ _)) := h
    rw [CompareNan.hook_bin, List.mem_ite_nil_right, List.mem_singleton, Bool.and_eq_true, Bool.and_eq_true] at h
    obtain ⟨⟨⟨_, hop⟩, hnan⟩, rfl⟩ := h
    unfold CompareNan.expressionIsNan at hnan
    split at hnan
    · rw [CompareNan.valueIsZero_eq, CompareNan.valueIsZero_eq] at hnan
      simpa [Doc.compareNan, hop, Bool.and_assoc] using hnan
    · cases hnan
  · cases h

theorem CompareNan.hook_byValue (n : Node) (x : Expect) (hx : x ∈ ByValue.compareNan n) :
    ∃ g ∈ CompareNan.hook n, x.matches g = true := by
  unfold ByValue.compareNan at hx
  split at hx
  · rw [List.mem_ite_nil_right, List.mem_singleton] at hx
    obtain ⟨hc, rfl⟩ := hx
    rw [CompareNan.hook_bin, CompareNan.expressionIsNan_bin, if_pos (by simpa [Bool.and_assoc] using hc)]
    exact ⟨_, .head _, Expect.matches_of rfl rfl⟩
  · cases hx

theorem Canon.compareNan_sub (n : Node) (x : Expect) (hx : x ∈ Canon.compareNan n) : x ∈ ByValue.compareNan n := by
  unfold Canon.compareNan at hx
  split at hx
  · simp only [ByValue.compareNan, List.mem_ite_nil_right, Bool.and_eq_true] at hx ⊢
    exact ⟨⟨⟨hx.1.1.1, zeroLit_of_spelled hx.1.1.2⟩, zeroLit_of_spelled hx.1.2⟩, hx.2⟩
  · cases hx

theorem CompareNan.hook_canon (n : Node) (x : Expect) (hx : x ∈ Canon.compareNan n) :
    ∃ g ∈ CompareNan.hook n, x.matches g = true :=
  CompareNan.hook_byValue n x (Canon.compareNan_sub n x hx)

theorem denotesLeOne_int (v : Nat) : (⟨v, 1⟩ : NumVal).denotesLeOne = decide (v ≤ 1) := by
  have : v * 2 ^ 53 ≤ (2 ^ 53 + 1) * 1 ↔ v ≤ 1 := by
    -- `(2 ^ 53 + 1) * 1 / 2 ^ 53` evaluates to `1`
    rw [← Nat.le_div_iff_mul_le (Nat.two_pow_pos _)]
  exact decide_eq_decide.mpr this

theorem numberValueLeOne_eq (text : String) : numberValueLeOne text = leOneText text := by
  have dec : rustF64LeOne text = match decimalValue text.toList with | some v => v.denotesLeOne | none => false := by
    unfold rustF64LeOne
    cases decimalValue text.toList <;> rfl
  have fits (v : Nat) : (decide (v < 2 ^ 64) && decide (v ≤ 1)) = decide (v ≤ 1) := by
    rw [← Bool.decide_and, decide_eq_decide]
    omega
  unfold numberValueLeOne leOneText
  split
  · rename_i x hex hcs
    split
    · rename_i hx
      rw [numValue_hex hcs hx, hexValue_test hx, denotesLeOne_int, Bool.and_assoc _ (decide _) (decide _), fits]
    · rename_i hx
      rw [numValue_dec (hcs ▸ hexValue_no_x hx hex), dec]
  · rename_i hne
    rw [numValue_dec (hexValue_no_prefix hne), dec]

theorem SuspiciousReverseLoop.hook_sound (n : Node) (g : Diag) (h : g ∈ SuspiciousReverseLoop.hook n) :
    Doc.suspiciousReverseLoop n g = true := by
  unfold SuspiciousReverseLoop.hook at h
  split at h
  · split at h
    · rename_i ha
      split at h
      · rename_i t
        rw [numberValueLeOne_eq, List.mem_ite_nil_right, List.mem_singleton] at h
        obtain ⟨hle, rfl⟩ := h
        unfold SuspiciousReverseLoop.isHashOp at ha
        split at ha
        · rename_i usp op _
          show (op.text == "#" && (⟨usp.first, t.idx⟩ : Span) == ⟨usp.first, t.idx⟩ &&
            (match numValue t.text with | some v => v.denotesLeOne | none => true)) = true
          rw [ha, beq_self_eq_true, Bool.true_and, Bool.true_and]
          revert hle
          unfold leOneText
          cases numValue t.text with
          | none => exact fun _ => rfl
          | some w => exact id
        · cases ha
      · cases h
    · cases h
  · cases h

theorem SuspiciousReverseLoop.hook_byValue (n : Node) (x : Expect) (hx : x ∈ ByValue.suspiciousReverseLoop n) :
    ∃ g ∈ SuspiciousReverseLoop.hook n, x.matches g = true := by
  unfold ByValue.suspiciousReverseLoop at hx
  split at hx
  · rename_i usp op _ t _
    rw [List.mem_ite_nil_right, List.mem_singleton, Bool.and_eq_true] at hx
    obtain ⟨⟨hop, hle⟩, rfl⟩ := hx
    refine ⟨{ code := "suspicious_reverse_loop", primary := ⟨usp.first, t.idx⟩, msg := SuspiciousReverseLoop.message }, ?_,
      Expect.matches_of rfl rfl⟩
    simp [SuspiciousReverseLoop.hook, SuspiciousReverseLoop.isHashOp, hop, numberValueLeOne_eq,
      show leOneText t.text = true from hle, Expr.span]
  · cases hx

theorem Canon.suspiciousReverseLoop_sub (n : Node) (x : Expect) (hx : x ∈ Canon.suspiciousReverseLoop n) :
    x ∈ ByValue.suspiciousReverseLoop n := by
  unfold Canon.suspiciousReverseLoop at hx
  split at hx
  · rw [List.mem_ite_nil_right, List.mem_singleton, Bool.and_eq_true] at hx
    obtain ⟨⟨hop, ht⟩, rfl⟩ := hx
    have one : numValue "1" = some ⟨1, 1⟩ := by decide
    simp [ByValue.suspiciousReverseLoop, hop, eq_of_beq ht, one, denotesLeOne_int]
  · cases hx

theorem SuspiciousReverseLoop.hook_canon (n : Node) (x : Expect) (hx : x ∈ Canon.suspiciousReverseLoop n) :
    ∃ g ∈ SuspiciousReverseLoop.hook n, x.matches g = true :=
  SuspiciousReverseLoop.hook_byValue n x (Canon.suspiciousReverseLoop_sub n x hx)

end Selene.Lints
