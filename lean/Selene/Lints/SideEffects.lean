/-
`HasSideEffects` (selene-lib/src/ast_util/side_effects.rs), arm by arm; used by `ifs_same_cond` and `almost_swapped`.
-/
import Selene.Lints.TraverseB
namespace Selene.LintsB.SideEffects
open Selene.Lua Selene.LintsB

mutual
def exprSE : Expr → Bool
  | .bin _ l _ r => exprSE l || exprSE r
  | .paren _ e => exprSE e
  | .un _ _ e => exprSE e
  | .func _ _ _ | .num _ | .str _ _ _ | .nil _ | .true_ _ | .false_ _ | .dots _ => false
  | .call _ => true
  | .tbl _ fs => fieldsSE fs
  | .var v => varSE v
  | .unsupported _ => true
def fieldsSE : FieldList → Bool
  | .nil => false
  | .cons f rest => fieldSE f || fieldsSE rest
def fieldSE : Field → Bool
  | .exprKey _ k v => exprSE k || exprSE v
  | .nameKey _ _ v => exprSE v
  | .noKey v => exprSE v
  | .unsupported _ => true
def varSE : Var → Bool
  | .name _ => false
  | .expr _ p ss => prefixSE p || suffixesSE ss
def prefixSE : Prefix → Bool
  | .expr e => exprSE e
  | .name _ => false
/-- `self.suffixes().any(HasSideEffects::has_side_effects)` -/
def suffixesSE : SuffixList → Bool
  | .nil => false
  | .cons s rest => suffixSE s || suffixesSE rest
/-- `impl HasSideEffects for ast::Suffix`: a call has side effects, a bracket index those of its expression -/
def suffixSE : Suffix → Bool
  | .args _ _ | .meth _ _ _ => true
  | .idx _ e => exprSE e
  | .dot _ _ => false
  | .unsupported _ => true
end

end Selene.LintsB.SideEffects
