/-
duplicate_keys, completeness: every field whose key — as the documentation spells keys (a name, a quoted
string without escapes, a plain decimal integer, an array item) — was already declared by an earlier field
of the same table is reported.  Needs the converse invariant of `DuplicateKeys.fields_sound` (`Covers`) and
that two literal texts with the same UTF-8 bytes are the same text.
-/
import Selene.Lints.LemmasATables
namespace Selene.Lints
open Selene.Lua

def contBytes : Nat → Nat → List Nat → Nat × List Nat
  | k + 1, acc, b :: bs => contBytes k (acc * 64 + (b - 0x80)) bs
  | _, acc, bs => (acc, bs)

theorem contBytes_div (k m : Nat) (bs : List Nat) :
    contBytes (k + 1) (m / 64) ((0x80 + m % 64) :: bs) = contBytes k m bs := by
  rw [contBytes, Nat.add_sub_cancel_left, Nat.div_add_mod']

/-- UTF-8 is injective because one decoding step is a left inverse of `charBytes` (`decode1_charBytes`) -/
def decode1 : List Nat → Option (Nat × List Nat)
  | [] => none
  | a :: bs =>
    if a < 0x80 then some (a, bs)
    else if a < 0xE0 then some (contBytes 1 (a - 0xC0) bs)
    else if a < 0xF0 then some (contBytes 2 (a - 0xE0) bs)
    else some (contBytes 3 (a - 0xF0) bs)

theorem decode1_charBytes (c : Char) (x : List Nat) : decode1 (charBytes c ++ x) = some (c.toNat, x) := by
  unfold charBytes
  generalize c.toNat = n
  have h2 : n / 4096 = n / 64 / 64 := (Nat.div_div_eq_div_mul n 64 64).symm
  have h3 : n / 262144 = n / 64 / 64 / 64 := by rw [Nat.div_div_eq_div_mul, Nat.div_div_eq_div_mul]
  -- the lead byte `L + n / d` selects the branch of `decode1`: it is not below a threshold `k ≤ L`,
  -- and it is below `L + b` when `n < d * b`
  have lead_ge {q : Nat} (L k : Nat) (hk : k ≤ L) : ¬ L + q < k := Nat.not_lt.mpr (Nat.le_add_right_of_le hk)
  have lead_lt (L d b : Nat) (h : n < d * b) : L + n / d < L + b := Nat.add_lt_add_left (Nat.div_lt_of_lt_mul h) L
  simp only [apply_ite (· ++ x), List.cons_append, List.nil_append]
  by_cases h80 : n < 0x80
  · rw [if_pos h80]
    exact if_pos h80
  rw [if_neg h80]
  by_cases h800 : n < 0x800
  · rw [if_pos h800, decode1, if_neg (lead_ge 0xC0 0x80 (by decide)), if_pos (lead_lt 0xC0 64 0x20 h800),
      Nat.add_sub_cancel_left, contBytes_div]
    rfl
  rw [if_neg h800]
  by_cases h10000 : n < 0x10000
  · rw [if_pos h10000, decode1, if_neg (lead_ge 0xE0 0x80 (by decide)), if_neg (lead_ge 0xE0 0xE0 (by decide)),
      if_pos (lead_lt 0xE0 4096 0x10 h10000), Nat.add_sub_cancel_left, h2, contBytes_div, contBytes_div]
    rfl
  rw [if_neg h10000, decode1, if_neg (lead_ge 0xF0 0x80 (by decide)), if_neg (lead_ge 0xF0 0xE0 (by decide)),
    if_neg (lead_ge 0xF0 0xF0 (by decide)), Nat.add_sub_cancel_left, h3, h2, contBytes_div, contBytes_div, contBytes_div]
  rfl

theorem charBytes_append_inj (c d : Char) (x y : List Nat) (h : charBytes c ++ x = charBytes d ++ y) :
    c = d ∧ x = y := by
  have := congrArg decode1 h
  rw [decode1_charBytes, decode1_charBytes, Option.some.injEq, Prod.mk.injEq] at this
  exact ⟨Char.toNat_inj.mp this.1, this.2⟩

theorem charBytes_ne_nil (c : Char) : charBytes c ≠ [] := by
  intro h
  have := decode1_charBytes c []
  rw [h] at this
  cases this

theorem bytesOf_inj : (a b : List Char) → bytesOf a = bytesOf b → a = b
  | [], [], _ => rfl
  | [], d :: _, h => absurd (List.append_eq_nil_iff.mp h.symm).1 (charBytes_ne_nil d)
  | c :: _, [], h => absurd (List.append_eq_nil_iff.mp h).1 (charBytes_ne_nil c)
  | c :: cs, d :: ds, h => by
    obtain ⟨h1, h2⟩ := charBytes_append_inj c d _ _ h
    rw [h1, bytesOf_inj cs ds h2]

namespace DuplicateKeys

/-- a key of the implementation as the specification names it -/
def canonOfKey : Key → Doc.KeyVal
  | ⟨.string, s⟩ => .str (bytesOf s.toList)
  | ⟨.number, s⟩ => .num s

theorem canonSame_eq (k k' : Key) (h : Canon.canonSame (canonOfKey k') (canonOfKey k) = true) : k' = k := by
  obtain ⟨t, s⟩ := k
  obtain ⟨t', s'⟩ := k'
  cases t <;> cases t'
  · have hs : s' = s := eq_of_beq h
    rw [hs]
  · cases h
  · cases h
  · have hb : bytesOf s'.toList = bytesOf s.toList := eq_of_beq h
    rw [String.ext (bytesOf_inj _ _ hb)]

theorem canonKeys_cons (f : Field) (rest : FieldList) (i : Nat) :
    ∃ ck, Canon.canonKeys (.cons f rest) i = (ck, fieldRange f) :: Canon.canonKeys rest (fieldKey f i).2 ∧
      ∀ kv, ck = some kv → ∃ key, (fieldKey f i).1 = some key ∧ canonOfKey key = kv := by
  cases f with
  | nameKey sp k v => exact ⟨_, rfl, fun kv h => ⟨⟨.string, k.text⟩, rfl, Option.some.inj h⟩⟩
  | noKey v => exact ⟨_, rfl, fun kv h => ⟨⟨.number, toString (i + 1)⟩, rfl, Option.some.inj h⟩⟩
  | unsupported sp => exact ⟨none, rfl, fun _ h => by cases h⟩
  | exprKey sp k v =>
    cases k with
    | str t q lit =>
      refine ⟨_, rfl, fun kv h => ⟨⟨.string, lit⟩, rfl, ?_⟩⟩
      split at h
      · exact Option.some.inj h
      · cases h
    | num t =>
      refine ⟨_, rfl, fun kv h => ⟨⟨.number, t.text⟩, rfl, ?_⟩⟩
      split at h
      · exact Option.some.inj h
      · cases h
    | _ => exact ⟨none, rfl, fun _ h => by cases h⟩

theorem lookupKey_cons_isSome (k key : Key) (sp : Span) (decl : List (Key × Span))
    (h : (lookupKey k decl).isSome = true) : (lookupKey k ((key, sp) :: decl)).isSome = true := by
  simp only [lookupKey]
  split
  · rfl
  · exact h

theorem lookupKey_head (key : Key) (sp : Span) (decl : List (Key × Span)) :
    (lookupKey key ((key, sp) :: decl)).isSome = true := by
  simp [lookupKey]

/-- every earlier field with a canonical key has its key in `declared` -/
def Covers (declared : List (Key × Span)) (earlier : List (Option Doc.KeyVal × Span)) : Prop :=
  ∀ kv s, (some kv, s) ∈ earlier → ∃ key, canonOfKey key = kv ∧ (lookupKey key declared).isSome = true

theorem Covers.lookup {declared : List (Key × Span)} {earlier : List (Option Doc.KeyVal × Span)}
    (hcov : Covers declared earlier) {key : Key}
    (h : earlier.any (fun (k', _) => match k' with | some k' => Canon.canonSame k' (canonOfKey key) | none => false) = true) :
    ∃ original, lookupKey key declared = some original := by
  obtain ⟨⟨k', s'⟩, hmem, hsame⟩ := List.any_eq_true.mp h
  cases k' with
  | none => cases hsame
  | some kv' =>
    obtain ⟨key', hcan', hlook⟩ := hcov kv' s' hmem
    cases canonSame_eq key key' (hcan' ▸ hsame)
    exact Option.isSome_iff_exists.mp hlook

theorem Covers.snoc {declared declared' : List (Key × Span)} {earlier : List (Option Doc.KeyVal × Span)}
    (hcov : Covers declared earlier) {ck : Option Doc.KeyVal} {fk : Option Key} (s : Span)
    (hkey : ∀ kv, ck = some kv → ∃ key, fk = some key ∧ canonOfKey key = kv)
    (hmono : ∀ k, (lookupKey k declared).isSome = true → (lookupKey k declared').isSome = true)
    (hnew : ∀ key, fk = some key → (lookupKey key declared').isSome = true) :
    Covers declared' (earlier ++ [(ck, s)]) := by
  intro kv s' hm
  rcases List.mem_append.mp hm with hm | hm
  · obtain ⟨key, hk1, hk2⟩ := hcov kv s' hm
    exact ⟨key, hk1, hmono key hk2⟩
  · cases List.mem_singleton.mp hm
    obtain ⟨key, hk1, hk2⟩ := hkey kv rfl
    exact ⟨key, hk2, hnew key hk1⟩

theorem fields_complete : (fs : FieldList) → (declared : List (Key × Span)) →
    (earlier : List (Option Doc.KeyVal × Span)) → (i : Nat) → Covers declared earlier →
    (x : Expect) → x ∈ Canon.dupExpected earlier (Canon.canonKeys fs i) →
    ∃ g ∈ fields fs declared i, g.primary = x.primary ∧ x.subStart = none
  | .nil, _, _, _, _, x, h => nomatch h
  | .cons f rest, declared, earlier, i, hcov, x, h => by
    obtain ⟨ck, hck, hkey⟩ := canonKeys_cons f rest i
    rw [hck] at h
    rw [fields_cons]
    generalize fieldKey f i = fki at hkey h ⊢
    obtain ⟨fk, i'⟩ := fki
    rcases List.mem_append.mp h with hx | hx
    · -- expected at this field
      cases ck with
      | none => cases hx
      | some kv =>
        obtain ⟨key, rfl, rfl⟩ := hkey kv rfl
        dsimp only at hx ⊢
        split at hx
        next hdeclared =>
          obtain ⟨original, hl⟩ := hcov.lookup hdeclared
          cases List.mem_singleton.mp hx
          rw [hl]
          exact ⟨_, .head _, rfl, rfl⟩
        next => cases hx
    · -- expected at a later field, whatever this one adds to `declared`
      have later := fun declared' h1 h2 =>
        fields_complete rest declared' _ _ (hcov.snoc (fieldRange f) hkey h1 h2) x hx
      cases fk with
      | none => exact later declared (fun _ hk => hk) (fun _ hk => nomatch hk)
      | some key =>
        dsimp only
        split
        · rename_i original hl
          obtain ⟨g, hg, hp⟩ := later declared (fun _ hk => hk) (fun _ hk => by cases hk; exact hl ▸ rfl)
          exact ⟨g, .tail _ hg, hp⟩
        · exact later _ (fun k hk => lookupKey_cons_isSome k key _ declared hk)
            (fun _ hk => by cases hk; exact lookupKey_head _ _ _)

theorem hook_canon (n : Node) (x : Expect) (hx : x ∈ Canon.duplicateKeys n) :
    ∃ g ∈ hook n, x.matches g = true := by
  cases n with
  | table sp fs =>
    obtain ⟨g, hg, hp, hs⟩ := fields_complete fs [] [] 0 (fun _ _ hm => nomatch hm) x hx
    exact ⟨g, hg, Expect.matches_of hp hs⟩
  | _ => cases hx

end DuplicateKeys
end Selene.Lints
