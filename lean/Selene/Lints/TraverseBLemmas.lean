/-
The traversal reaches every syntactic position: if `b` occurs in `a` at any depth (`Within a b`), the nodes the
traversal emits for `b` form a contiguous segment of the nodes it emits for `a`.
-/
import Selene.Lints.TraverseB
namespace Selene.LintsB
open Selene.Lua

/-- `flatMap Any.nodes` without a `++ []` after the last piece, so that `nodes_eq_own_children` holds by `rfl` -/
def catNodes : List Any → List Node
  | [] => []
  | [x] => x.nodes
  | x :: xs => x.nodes ++ catNodes xs

theorem infix_catNodes {b : Any} : ∀ {cs : List Any}, b ∈ cs → b.nodes <:+: catNodes cs
  | [x], h => by obtain rfl := List.mem_singleton.mp h; exact List.infix_refl _
  | x :: y :: cs, h => by
    obtain rfl | h := List.mem_cons.mp h
    · exact (List.prefix_append _ _).isInfix
    · exact (infix_catNodes h).trans (List.suffix_append _ _).isInfix

theorem nodes_eq_own_children (a : Any) : ∃ own, a.nodes = own ++ catNodes a.children := by
  cases a with
  | expr e => cases e <;> exact ⟨[], rfl⟩
  | exprs es => cases es <;> exact ⟨[], rfl⟩
  | var v => cases v <;> exact ⟨[], rfl⟩
  | vars vs => cases vs <;> exact ⟨[], rfl⟩
  | pre p => cases p <;> exact ⟨[], rfl⟩
  | suffix s => cases s <;> exact ⟨[], rfl⟩
  | suffixes ss => cases ss <;> exact ⟨[], rfl⟩
  | args a => cases a <;> exact ⟨[], rfl⟩
  | fcall c => cases c; exact ⟨[.call _], rfl⟩
  | field f => cases f <;> exact ⟨[], rfl⟩
  | fields fs => cases fs <;> exact ⟨[], rfl⟩
  | body fb => cases fb; exact ⟨[], rfl⟩
  | stmt s => cases s <;> exact ⟨[.stmt _], rfl⟩
  | stmts ss => cases ss <;> exact ⟨[], rfl⟩
  | elif e => cases e; exact ⟨[], rfl⟩
  | elifs es => cases es <;> exact ⟨[], rfl⟩
  | optb o => cases o <;> exact ⟨[], rfl⟩
  | opte o => cases o <;> exact ⟨[], rfl⟩
  | last l =>
    cases l with
    | none => exact ⟨[], rfl⟩
    | ret sp es => exact ⟨[.last _], rfl⟩
    | brk t => exact ⟨[.last _], rfl⟩
  | block blk => cases blk; exact ⟨[.block _], rfl⟩

theorem within_nodes_infix {a b : Any} (h : Within a b) : b.nodes <:+: a.nodes := by
  induction h with
  | refl => exact List.infix_refl _
  | @step a _ _ hc _ ih =>
    obtain ⟨own, e⟩ := nodes_eq_own_children a
    rw [e]
    exact ih.trans ((infix_catNodes hc).trans (List.suffix_append _ _).isInfix)

theorem Within.trans {a b c : Any} (h1 : Within a b) (h2 : Within b c) : Within a c := by
  induction h1 with
  | refl => exact h2
  | step hc _ ih => exact Within.step hc (ih h2)

/-- every statement of the program, wherever it stands, is visited -/
theorem within_stmt_mem {P : Block} {s : Stmt} (h : Within (.block P) (.stmt s)) : Node.stmt s ∈ nBlock P :=
  (within_nodes_infix h).subset (List.mem_cons_self ..)

theorem within_block_mem {P b : Block} (h : Within (.block P) (.block b)) : Node.block b ∈ nBlock P :=
  (within_nodes_infix h).subset (match b with | .mk .. => List.mem_cons_self ..)

theorem within_fcall_mem {P : Block} {c : FCall} (h : Within (.block P) (.fcall c)) : Node.call c ∈ nBlock P :=
  (within_nodes_infix h).subset (match c with | .mk .. => List.mem_cons_self ..)

/-- the statements of a list, with the nodes below each -/
def stmtNodes (l : List Stmt) : List Node := l.flatMap fun s => Node.stmt s :: nStmt s

theorem nStmts_cons (s : Stmt) (rest : StmtList) : nStmts (.cons s rest) = .stmt s :: (nStmt s ++ nStmts rest) := rfl

theorem nStmts_eq : ∀ ss : StmtList, nStmts ss = stmtNodes ss.toList
  | .nil => rfl
  | .cons s rest => congrArg (fun l => Node.stmt s :: (nStmt s ++ l)) (nStmts_eq rest)

theorem _root_.Selene.Lua.StmtList.ofList_toList : ∀ ss : StmtList, .ofList ss.toList = ss
  | .nil => rfl
  | .cons s rest => congrArg (StmtList.cons s) (ofList_toList rest)

theorem within_stmts_suffix : ∀ (ss : StmtList) (before : List Stmt) (rest : StmtList),
    ss.toList = before ++ rest.toList → Within (.stmts ss) (.stmts rest)
  | _, [], _, h => Function.LeftInverse.injective StmtList.ofList_toList h ▸ Within.refl _
  | .nil, _ :: _, _, h => nomatch h
  | .cons _ ss', _ :: before, rest, h =>
    Within.step (b := .stmts ss') (List.mem_cons_of_mem _ (List.mem_cons_self ..))
      (within_stmts_suffix ss' before rest (List.cons.inj h).2)
-- recursion over the plain list is much cheaper to check than over the statement list of the syntax tree
termination_by structural _ before => before

end Selene.LintsB
