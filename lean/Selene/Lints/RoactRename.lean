/- `roblox_incorrect_roact_usage` under a consistent renaming of variables (`run_ren`). -/
import Selene.Lints.Roact
import Selene.Lints.TraverseBRename
import Selene.Lua.RenameLemmas
namespace Selene.Lints.Roact
open Selene.Lua Selene.LintsB Selene.Std.Roblox

structure Respectful (ρ : String → String) : Prop where
  inj : ∀ a b, ρ a = ρ b → a = b
  roact : ρ "Roact" = "Roact"
  react : ρ "React" = "React"

theorem libOfName_ren {ρ} (h : Respectful ρ) (n : String) : libOfName (ρ n) = libOfName n := by
  unfold libOfName
  simp only [ren_eq_fixed h.inj h.roact, ren_eq_fixed h.inj h.react]

theorem isCreateElement_ren {ρ} (h : Respectful ρ) (p : Prefix) (ss : List Suffix) :
    isCreateElement (p.ren ρ) (ss.map (Suffix.ren ρ)) = isCreateElement p ss := by
  cases p with
  | expr e => rfl
  | name t =>
    match ss with
    | [] => rfl
    | [s] =>
      cases s with
      | dot sp name => simp only [List.map, Prefix.ren_name, Suffix.ren_dot, isCreateElement, Tok.ren, libOfName_ren h]
      | idx _ _ | args _ _ | meth _ _ _ | unsupported _ => rfl
    | _ :: _ :: _ => simp [Prefix.ren_name, isCreateElement]

theorem eventKey_ren {ρ} (h : Respectful ρ) : (k : Expr) → eventKey (k.ren ρ) = eventKey k
  | .paren _ e => eventKey_ren h e
  | .var (.expr _ (.name lib) ss) => by
    -- by definition an `if` on the spelling of `lib`
    refine ite_congr (propext (or_congr (ren_eq_fixed h.inj h.roact _) (ren_eq_fixed h.inj h.react _)))
      (fun _ => ?_) fun _ => rfl
    rw [SuffixList.toList_ren]
    match ss.toList with
    | [] | [.dot _ _] => rfl
    | .dot _ _ :: s :: _ => cases s <;> rfl
    | .idx _ _ :: _ | .args _ _ :: _ | .meth _ _ _ :: _ | .unsupported _ :: _ => rfl
  | .var (.name _) | .var (.expr _ (.expr _) _)
  | .nil _ | .true_ _ | .false_ _ | .dots _ | .num _ | .str _ _ _ | .func _ _ _ | .un _ _ _ | .bin _ _ _ _ | .tbl _ _
  | .call _ | .unsupported _ => rfl

/-- a report without its note, which quotes source text, and the end of its range, which `closingBracket` finds over the
token texts: nothing is assumed of the token list `toks'` of the renamed program -/
def Diag.core (d : Diag) : Nat × String := (d.range.first, d.message)

theorem Diag.core_mk (r : Span) (m : String) (n : List String) : Diag.core ⟨r, m, n⟩ = (r.first, m) := rfl

/-- the states of the lint on a program and on its renaming -/
def Rel (ρ : String → String) (σ σ' : St) : Prop :=
  σ'.defs = σ.defs.map (fun d => (ρ d.1, d.2)) ∧ σ'.events.map Diag.core = σ.events.map Diag.core ∧
  σ'.properties.map Diag.core = σ.properties.map Diag.core ∧ σ'.unknown.map Diag.core = σ.unknown.map Diag.core

theorem Rel.ite {ρ} {a a' b b' : St} (c : Prop) [Decidable c] (ha : Rel ρ a a') (hb : Rel ρ b b') :
    Rel ρ (if c then a else b) (if c then a' else b') := by
  split
  · exact ha
  · exact hb

variable {toks toks' : List String} {cs : Classes} {σ σ' : St}

theorem checkField_rel {ρ} (h : Respectful ρ) {lib : Lib} {cn : String} {cls : Class} {ce ce' : String} (hR : Rel ρ σ σ') (f : Field) :
    Rel ρ (checkField toks cs lib cn cls ce σ f) (checkField toks' cs lib cn cls ce' σ' (f.ren ρ)) := by
  have ⟨hd, he, hp, hu⟩ := hR
  cases f with
  | nameKey sp key value =>
    refine .ite _ hR (.ite _ ⟨hd, he, ?_, hu⟩ hR)
    -- not `rfl`: it compares the notes before unfolding `Diag.core` and is slow to fail
    simp only [List.map_append, hp, List.map_cons, List.map_nil, apply_ite Diag.core, Diag.core_mk]
  | exprKey sp k v =>
    simp only [Field.ren_exprKey, checkField, eventKey_ren h]
    cases eventKey k with
    | none => exact hR
    | some ev =>
      refine .ite _ ⟨hd, ?_, hp, hu⟩ hR
      simp only [List.map_append, he, List.map_cons, List.map_nil, Diag.core_mk]
  | noKey _ | unsupported _ => exact hR

/-- same library or none; how the callee is written may differ -/
theorem targetOf_ren {ρ} (h : Respectful ρ) (defs : List (String × Lib)) (p : Prefix) (before : List Suffix) :
    ∃ g : String → String, targetOf (defs.map (fun d => (ρ d.1, d.2))) (p.ren ρ) (before.map (Suffix.ren ρ)) =
      (targetOf defs p before).map fun t => (t.1, g t.2) := by
  cases p with
  | expr e =>
    match before with
    | [] | [_] | _ :: _ :: _ => exact ⟨id, rfl⟩
  | name n =>
    match before with
    | [] =>
      refine ⟨fun _ => ρ n.text, ?_⟩
      simp only [Prefix.ren_name, targetOf, List.map_nil, Tok.ren, find?_renKey ρ defs n.text fun _ _ => h.inj _ _, Option.map_map]
      rfl
    | [s] =>
      refine ⟨fun _ => ρ n.text ++ ".createElement", ?_⟩
      have := isCreateElement_ren h (.name n) [s]
      simp only [Prefix.ren_name, List.map_cons, List.map_nil] at this
      simp only [Prefix.ren_name, targetOf, List.map_cons, List.map_nil, this, Option.map_map]
      rfl
    | _ :: _ :: _ => exact ⟨id, rfl⟩

theorem checkArgs_rel {ρ} (h : Respectful ρ) {lib : Lib} {ce ce' : String} (hR : Rel ρ σ σ') (args : List Expr) :
    Rel ρ (checkArgs toks cs σ lib ce args) (checkArgs toks' cs σ' lib ce' (args.map (Expr.ren ρ))) := by
  match args with
  | [] => exact hR
  | a :: rest =>
    cases a with
    | str t q literal =>
      simp only [List.map_cons, Expr.ren_str, checkArgs]
      cases get cs literal with
      | none =>
        obtain ⟨hd, he, hp, hu⟩ := hR
        exact ⟨hd, he, hp, by simp only [List.map_append, hu, List.map_cons, List.map_nil, Diag.core_mk]⟩
      | some cls =>
        match rest with
        | [] => exact hR
        | r :: more =>
          cases r with
          | tbl sp fields =>
            simp only [List.map_cons, Expr.ren_tbl, FieldList.toList_ren, List.foldl_map]
            exact List.foldl_rel hR fun f _ _ _ hR => checkField_rel h hR f
          | _ => exact hR
    | _ => exact hR

theorem visitCall_rel {ρ} (h : Respectful ρ) (hR : Rel ρ σ σ') (c : FCall) :
    Rel ρ (visitCall toks cs σ c) (visitCall toks' cs σ' (c.ren ρ)) := by
  cases c with
  | mk sp p ss =>
    obtain ⟨g, ht⟩ := targetOf_ren h σ.defs p ss.toList.dropLast
    simp only [FCall.ren_mk, visitCall, SuffixList.toList_ren, List.getLast?_map, ← List.map_dropLast, hR.1, ht]
    cases targetOf σ.defs p ss.toList.dropLast with
    | none => exact hR
    | some t =>
      cases ss.toList.getLast? with
      | none => exact hR
      | some last =>
        cases last with
        | args sp2 a =>
          cases a with
          | parens sp3 es =>
            simp only [Option.map_some, Suffix.ren_args, Args.ren_parens, ExprList.toList_ren]
            exact checkArgs_rel h hR es.toList
          | _ => exact hR
        | _ => exact hR

theorem visitLocal_rel {ρ} (h : Respectful ρ) (names : List Tok) (es : ExprList) (hR : Rel ρ σ σ') :
    Rel ρ (visitLocal σ names es) (visitLocal σ' (names.map (Tok.ren ρ)) (es.ren ρ)) := by
  unfold visitLocal
  rw [ExprList.toList_ren, List.zip_map, List.foldl_map]
  refine List.foldl_rel hR fun ne _ σ σ' hR => ?_
  obtain ⟨n, e⟩ := ne
  cases e with
  | var v =>
    cases v with
    | name t => exact hR
    | expr sp p ss =>
      simp only [Prod.map, Expr.ren_var, Var.ren_expr, SuffixList.toList_ren, isCreateElement_ren h]
      cases isCreateElement p ss.toList with
      | none => exact hR
      | some lib => exact ⟨by simp only [hR.1, List.map_cons, Tok.ren], hR.2⟩
  | _ => exact hR

theorem step_rel {ρ} (h : Respectful ρ) (hR : Rel ρ σ σ') (n : Node) : Rel ρ (step toks cs σ n) (step toks' cs σ' (n.ren ρ)) := by
  cases n with
  | call c => exact visitCall_rel h hR c
  | stmt s =>
    cases s with
    | localAssign sp names es => exact visitLocal_rel h names es hR
    | _ => exact hR
  | _ => exact hR

/-- **The lint's reports — where they are made and what their messages say — do not depend on how the script spells its
variables**, `Roact` and `React` aside: the renamed program gets the same reports in the same order (a note may quote the
renamed text). -/
theorem run_ren {ρ} (h : Respectful ρ) (enabled : Bool) (toks toks' : List String) (cs : Classes) (b : Block) :
    (run enabled toks' cs (b.ren ρ)).map Diag.core = (run enabled toks cs b).map Diag.core := by
  unfold run
  split
  · rfl
  · rw [nBlock_ren, List.foldl_map]
    obtain ⟨_, he, hp, hu⟩ : Rel ρ ((nBlock b).foldl (step toks cs) {}) _ :=
      List.foldl_rel ⟨rfl, rfl, rfl, rfl⟩ fun n _ _ _ hR => step_rel h (toks' := toks') hR n
    simp only [List.map_append, he, hp, hu]

end Selene.Lints.Roact
